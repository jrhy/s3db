/-!
# Association lists observed through `lookup`

Maps of the model (columns of a row, entries of a tree, objects of a bucket) are plain
association lists: first match wins, `insert` replaces the first match or appends.
Nothing depends on an ordering invariant; the driver sorts when it prints.
Core Lean only.
-/
namespace S3db

abbrev AList (K V : Type) := List (K × V)

namespace AList
variable {K V : Type} [DecidableEq K]

def lookup (k : K) : AList K V → Option V
  | [] => none
  | (k', v) :: xs => if k' = k then some v else lookup k xs

def contains (k : K) (xs : AList K V) : Bool := (lookup k xs).isSome

/-- replace the first binding of `k`, or append one -/
def insert (k : K) (v : V) : AList K V → AList K V
  | [] => [(k, v)]
  | (k', v') :: xs => if k' = k then (k, v) :: xs else (k', v') :: insert k v xs

/-- remove every binding of `k` -/
def erase (k : K) : AList K V → AList K V
  | [] => []
  | (k', v') :: xs => if k' = k then erase k xs else (k', v') :: erase k xs

def keys (xs : AList K V) : List K := xs.map (·.1)

@[simp] theorem lookup_nil (k : K) : lookup k ([] : AList K V) = none := rfl

theorem lookup_insert (k k' : K) (v : V) (xs : AList K V) :
    lookup k (insert k' v xs) = if k' = k then some v else lookup k xs := by
  induction xs with
  | nil => rfl
  | cons p xs ih =>
    simp only [insert, lookup, apply_ite (lookup k), ih]
    by_cases hk : k' = k
    · subst hk; by_cases h : p.1 = k' <;> simp [h]
    · by_cases h : p.1 = k' <;> simp [h, hk]

theorem lookup_insert_self (k : K) (v : V) (xs : AList K V) :
    lookup k (insert k v xs) = some v := by rw [lookup_insert, if_pos rfl]

theorem lookup_insert_ne {k k' : K} (h : k' ≠ k) (v : V) (xs : AList K V) :
    lookup k (insert k' v xs) = lookup k xs := by rw [lookup_insert, if_neg h]

theorem lookup_insert_comm {k1 k2 : K} (h : k1 ≠ k2) (v1 v2 : V) (xs : AList K V) (k : K) :
    lookup k (insert k1 v1 (insert k2 v2 xs)) = lookup k (insert k2 v2 (insert k1 v1 xs)) := by
  by_cases a : k1 = k
  · rw [lookup_insert, if_pos a, lookup_insert_ne (a ▸ h.symm), lookup_insert, if_pos a]
  · rw [lookup_insert_ne a, lookup_insert, lookup_insert, lookup_insert_ne a]

theorem lookup_erase (k k' : K) (xs : AList K V) :
    lookup k (erase k' xs) = if k' = k then none else lookup k xs := by
  induction xs with
  | nil => exact (ite_self _).symm
  | cons p xs ih =>
    simp only [erase, lookup, apply_ite (lookup k), ih]
    by_cases hk : k' = k
    · subst hk; by_cases h : p.1 = k' <;> simp [h]
    · by_cases h : p.1 = k' <;> simp [h, hk]

theorem lookup_some_mem {k : K} {v : V} : ∀ {xs : AList K V}, lookup k xs = some v → (k, v) ∈ xs := by
  intro xs h
  induction xs with
  | nil => cases h
  | cons p xs ih =>
    rw [lookup] at h
    split at h
    · next e => cases h; subst e; exact .head _
    · exact .tail _ (ih h)

theorem lookup_isSome_of_mem {k : K} {v : V} : ∀ {xs : AList K V}, (k, v) ∈ xs → (lookup k xs).isSome := by
  intro xs h
  induction xs with
  | nil => cases h
  | cons p xs ih =>
    rw [lookup]
    split
    · rfl
    · next hne =>
      rcases List.mem_cons.1 h with h | h
      · subst h; exact absurd rfl hne
      · exact ih h

theorem lookup_eq_none_iff {k : K} {xs : AList K V} : lookup k xs = none ↔ k ∉ keys xs := by
  induction xs with
  | nil => exact ⟨fun _ => List.not_mem_nil, fun _ => rfl⟩
  | cons p xs ih =>
    show (if p.1 = k then some p.2 else lookup k xs) = none ↔ ¬ k ∈ p.1 :: keys xs
    rw [List.mem_cons, not_or, ← ih]
    split
    · next h => exact ⟨fun h' => (nomatch h'), fun h' => absurd h.symm h'.1⟩
    · next h => exact ⟨fun h' => ⟨fun e => h e.symm, h'⟩, And.right⟩

theorem mem_keys_of_ne_none {k : K} {xs : AList K V} (h : lookup k xs ≠ none) : k ∈ keys xs :=
  Decidable.of_not_not fun hn => h (lookup_eq_none_iff.2 hn)

/-- fold a list of updates into a map and observe one key -/
theorem lookup_foldl_insertWith (k : K) (f : Option V → K → V → V) (ys : List (K × V)) :
    ∀ (xs : AList K V),
      lookup k (ys.foldl (fun acc p => insert p.1 (f (lookup p.1 acc) p.1 p.2) acc) xs)
        = ys.foldl (fun o p => if p.1 = k then some (f o p.1 p.2) else o) (lookup k xs) := by
  induction ys with
  | nil => intro xs; rfl
  | cons y ys ih =>
    intro xs
    rw [List.foldl_cons, List.foldl_cons, ih, lookup_insert]
    congr 1
    split
    · next h => rw [h]
    · rfl

/-- membership in a list from which every element that occurs again later has been dropped: the
    shape shared by `Row.dedup`, `Kv.dedup` and `Changes.dedupK` -/
theorem mem_dedup_of {d : List K → List K} (nil : d [] = [])
    (cons : ∀ k ks, d (k :: ks) = if k ∈ ks then d ks else k :: d ks) {k : K} :
    ∀ {ks : List K}, k ∈ d ks ↔ k ∈ ks
  | [] => by rw [nil]
  | a :: ks => by
    rw [cons]
    split
    · rw [mem_dedup_of nil cons, List.mem_cons]
      exact ⟨Or.inr, fun h => h.elim (fun e => e ▸ ‹a ∈ ks›) id⟩
    · rw [List.mem_cons, List.mem_cons, mem_dedup_of nil cons]

def NodupKeys (xs : AList K V) : Prop := (keys xs).Nodup

theorem keys_insert (k : K) (v : V) (xs : AList K V) :
    keys (insert k v xs) = if k ∈ keys xs then keys xs else keys xs ++ [k] := by
  induction xs with
  | nil => rfl
  | cons p xs ih =>
    obtain ⟨a, b⟩ := p
    by_cases h : a = k
    · subst h; simp [insert, keys]
    · have h' : ¬ k = a := fun e => h e.symm
      simp only [insert, h, if_false, keys, List.map_cons, List.mem_cons, h', false_or] at ih ⊢
      rw [ih]; split <;> simp [*]

theorem nodupKeys_insert {k : K} {v : V} {xs : AList K V} (h : NodupKeys xs) :
    NodupKeys (insert k v xs) := by
  unfold NodupKeys at *
  rw [keys_insert]; split
  · exact h
  · next hk => exact List.nodup_append.2 ⟨h, List.nodup_cons.2 ⟨List.not_mem_nil, List.nodup_nil⟩,
      fun a ha b hb e => hk (List.mem_singleton.1 hb ▸ e ▸ ha)⟩

omit [DecidableEq K] in
theorem nodupKeys_nil : NodupKeys ([] : AList K V) := List.nodup_nil

omit [DecidableEq K] in
theorem nodupKeys_filter {xs : AList K V} (p : K × V → Bool) (h : NodupKeys xs) :
    NodupKeys (xs.filter p) :=
  List.Nodup.sublist (List.filter_sublist.map _) h

theorem lookup_filter {xs : AList K V} (p : K × V → Bool) (h : NodupKeys xs) (k : K) :
    lookup k (xs.filter p) = match lookup k xs with
      | some v => if p (k, v) then some v else none
      | none => none := by
  induction xs with
  | nil => rfl
  | cons q xs ih =>
    obtain ⟨hq, hxs⟩ := List.nodup_cons.1 h
    simp only [List.filter_cons, lookup, apply_ite (lookup k), ih hxs]
    by_cases hk : q.1 = k
    · subst hk; simp [lookup_eq_none_iff.2 hq]
    · simp [hk]

end AList
end S3db
