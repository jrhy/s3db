import S3db.Model.Kv
import S3db.Lemmas.KvMerge
/-!
# C17 — the key-value layer keeps its documented last-write and tombstone rules

The theorems are stated about the **generated** `Gen.Crdt.lastWriteWins`
(regenerated from `kv/crdt/value.go` on every run) and about the tree model of `Model/Kv.lean`.
-/
namespace S3db.Props.C17
open S3db S3db.AList S3db.Gen.Crdt S3db.Kv

set_option linter.unusedSectionVars false
variable {K V : Type} [DecidableEq K] [DecidableEq V]

/-- "distinct times": two different entries never tie (same tombstone time, or both live
    with the same modification time) -/
def Compat (a b : Entry V) : Prop :=
  (a.tomb ≠ 0 → b.tomb ≠ 0 → a.tomb = b.tomb → a = b) ∧
  (a.tomb = 0 → b.tomb = 0 → a.mod = b.mod → a = b)

theorem lww_pick (a b : Entry V) : lastWriteWins a b = a ∨ lastWriteWins a b = b := Kv.lww_pick a b

theorem lww_idem (a : Entry V) : lastWriteWins a a = a := by
  rcases lww_pick a a with h | h <;> exact h

/-- the kv merge function satisfies the selection laws on entries with distinct times: it returns
    the stronger entry (`Kv.Beats`), and entries of equal strength are equal -/
theorem lww_laws : Sel.Laws (lww (V := V)) Compat :=
  lwwLaws.mono fun _ _ ⟨h1, h2⟩ hab hba =>
    (beats_antisymm hab hba).elim (fun ⟨ha, hb, h⟩ => h2 ha hb h) (fun ⟨ha, hb, h⟩ => h1 ha hb h)

theorem lww_comm (a b : Entry V) (h : Compat a b) : lastWriteWins a b = lastWriteWins b a :=
  lww_laws.comm a b h

theorem lww_assoc (a b c : Entry V) (hab : Compat a b) (hbc : Compat b c) (hac : Compat a c) :
    lastWriteWins (lastWriteWins a b) c = lastWriteWins a (lastWriteWins b c) :=
  lww_laws.assoc a b c hab hbc hac

/-- for every key the merged value is the one set with the latest time -/
theorem latest_wins (a b : Entry V) (ha : a.tomb = 0) (hb : b.tomb = 0) (h : b.mod < a.mod) :
    lastWriteWins a b = a ∧ lastWriteWins b a = a := by
  rw [lww_eq, lww_eq, if_pos (.inl ⟨ha, hb, Int.le_of_lt h⟩), if_neg (by unfold Wins; omega)]
  exact ⟨rfl, rfl⟩

/-- a tombstone beats every value regardless of time -/
theorem tombstone_beats_value (a b : Entry V) (ha : a.tomb ≠ 0) (hb : b.tomb = 0) :
    lastWriteWins a b = a ∧ lastWriteWins b a = a := by
  rw [lww_eq, lww_eq, if_pos (.inr ⟨ha, .inl hb⟩), if_neg (by unfold Wins; omega)]
  exact ⟨rfl, rfl⟩

/-- among tombstones the earliest is kept -/
theorem earliest_tombstone (a b : Entry V) (ha : a.tomb ≠ 0) (hb : b.tomb ≠ 0) (h : a.tomb < b.tomb) :
    lastWriteWins a b = a ∧ lastWriteWins b a = a := by
  rw [lww_eq, lww_eq, if_pos (.inr ⟨ha, .inr h⟩), if_neg (by unfold Wins; omega)]
  exact ⟨rfl, rfl⟩

/-- the entry gate of `Tree.update`: a write that ties with the stored live entry wins -/
theorem tie_goes_to_new (n o : Entry V) (hn : n.tomb = 0) (ho : o.tomb = 0) (h : n.mod = o.mod) :
    lastWriteWins n o = n := by
  rw [lww_eq, if_pos (.inl ⟨hn, ho, Int.le_of_eq h.symm⟩)]

/-- the pointer companion agrees with the value-level function -/
theorem lww_fst (a b : Entry V) : lastWriteWins a b = if lastWriteWinsFst a b then a else b := by
  rw [lww_eq, lwwFst_eq]; simp only [decide_eq_true_eq]

/-- the code's fold: `acc.Clone().Merge(graft)` along a plan over the versions `vs` -/
def evalPlan (vs : Nat → Tree K V) : Sel.Plan → Tree K V
  | .leaf i => vs i
  | .node p q => mergeTrees lww (evalPlan vs p) (evalPlan vs q)

theorem nodup_evalPlan (vs : Nat → Tree K V) (hn : ∀ i, NodupKeys (vs i)) :
    ∀ p, NodupKeys (evalPlan vs p)
  | .leaf i => hn i
  | .node p _ => nodupKeys_mergeTrees lww _ (nodup_evalPlan vs hn p)

theorem lookup_evalPlan (vs : Nat → Tree K V) (hn : ∀ i, NodupKeys (vs i)) (k : K) :
    ∀ p, lookup k (evalPlan vs p) = Sel.evalAt lww (fun i => lookup k (vs i)) p
  | .leaf i => rfl
  | .node p q => by
    simp only [evalPlan, Sel.evalAt]
    rw [lookup_mergeTrees lww _ (nodup_evalPlan vs hn q), mergeOpt_eq_selOpt lww_laws,
      lookup_evalPlan vs hn k p, lookup_evalPlan vs hn k q]

/-- **kv_converges**: any two merge plans over the same set of versions hold the same entry for
    every key — whatever the order, the grouping and the repetitions — provided no two
    different entries of one key tie. -/
theorem kv_converges (vs : Nat → Tree K V) (hn : ∀ i, NodupKeys (vs i))
    (hc : ∀ k i j x y, lookup k (vs i) = some x → lookup k (vs j) = some y → Compat x y)
    (p q : Sel.Plan) (hpq : ∀ i, i ∈ p.leaves ↔ i ∈ q.leaves) (k : K) :
    lookup k (evalPlan vs p) = lookup k (evalPlan vs q) := by
  rw [lookup_evalPlan vs hn k p, lookup_evalPlan vs hn k q]
  exact Sel.evalAt_indep lww_laws (hc k) p q hpq

/-- the premises of `kv_converges` are satisfiable by a non-trivial family -/
example :
    let v0 : Tree Nat Nat := [(1, { mod := 5, val := some 10 }), (2, { mod := 3, tomb := 3, val := none })]
    let v1 : Tree Nat Nat := [(1, { mod := 7, val := some 11 }), (2, { mod := 9, val := some 4 })]
    (lookup 1 (mergeTrees lww v0 v1) = lookup 1 (mergeTrees lww v1 v0)) ∧
    (lookup 2 (mergeTrees lww v0 v1) = some { mod := 3, tomb := 3, val := none }) := by decide

theorem get_update_other (src : Option String) (t : Tree K V) (k k' : K) (cv : Entry V) (h : k ≠ k') :
    get (update src t k cv) k' = get t k' := by
  unfold Kv.get; rw [lookup_update_ne src t cv h]

set_option linter.unusedVariables false in
/-- a `Set` older than the stored live entry changes nothing -/
theorem set_older_ignored (src : Option String) (t : Tree K V) (k : K) (when : Int) (v : V) (ex : Entry V)
    (hl : lookup k t = some ex) (hlive : ex.tomb = 0) (hold : when < ex.mod) :
    lookup k (set src t when k v) = some ex := by
  rw [lookup_set, hl]
  simp only; rw [if_neg (by omega)]

/-- a `Set` at or after the stored live entry replaces it and records where it came from -/
theorem set_newer_wins (src : Option String) (t : Tree K V) (k : K) (when : Int) (v : V) (ex : Entry V)
    (hl : lookup k t = some ex) (hlive : ex.tomb = 0) (hnew : ex.mod ≤ when) :
    lookup k (set src t when k v) = some { mod := when, val := some v, prev := src.getD "" } := by
  rw [lookup_set, hl]
  simp only; rw [if_pos ⟨hlive, hnew⟩]

/-- once tombstoned, a key stays absent whatever is `Set` afterwards, at any time -/
theorem tombstone_blocks_set (src : Option String) (t : Tree K V) (k : K) (when : Int) (v : V) (ex : Entry V)
    (hl : lookup k t = some ex) (htomb : ex.tomb > 0) :
    get (set src t when k v) k = none := by
  rw [Kv.get, lookup_set, hl]
  simp only; rw [if_neg (show ¬ (ex.tomb = 0 ∧ ex.mod ≤ when) by omega), if_pos htomb]

theorem removeTombstones_spec (t : Tree K V) (hn : NodupKeys t) (cutoff : Int) (k : K) :
    lookup k (removeTombstones t cutoff) =
      match lookup k t with
      | some e => if e.tomb ≠ 0 ∧ e.tomb < cutoff then none else some e
      | none => none := by
  unfold removeTombstones
  rw [lookup_filter _ hn]
  cases lookup k t with
  | none => rfl
  | some e => by_cases h1 : e.tomb = 0 <;> by_cases h2 : e.tomb < cutoff <;> simp [h1, h2]

/-- **diff_exact**: `Diff` reports exactly the keys whose visible value differs -/
theorem diff_exact (s frm : Tree K V) (k : K) :
    k ∈ (diff s frm).map (·.1) ↔ inner (lookup k s) ≠ inner (lookup k frm) := by
  simp only [diff, List.mem_map, List.mem_filterMap, mem_dedup, List.mem_append]
  constructor
  · rintro ⟨_, ⟨k', _, h⟩, rfl⟩
    split at h <;> cases h
    assumption
  · intro h
    refine ⟨_, ⟨k, ?_, if_neg h⟩, rfl⟩
    -- the two sides differ, so `k` is bound on one of them
    by_cases h1 : lookup k s = none
    · exact .inr (mem_keys_of_ne_none fun h2 => h (by rw [h1, h2]))
    · exact .inl (mem_keys_of_ne_none h1)

/-- one round of the walk: it stops, or reports the entry of `k`, which is below the cutoff, and
    then either ends or goes on in the stored version the entry came from, with the reported
    time as the new cutoff -/
theorem trace_cases (store : String → Option (Tree K V)) (after : Int) (k : K) (n : Nat)
    (t : Tree K V) (c : Option Int) :
    trace store after k (n + 1) t c = [] ∨
    ∃ e rest, lookup k t = some e ∧ atOrAbove c e.mod = false ∧
      trace store after k (n + 1) t c = (e.mod, e.val) :: rest ∧
      (rest = [] ∨ ∃ t', store e.prev = some t' ∧ rest = trace store after k n t' (some e.mod)) := by
  rw [trace]
  cases lookup k t with
  | none => exact Or.inl rfl
  | some e =>
    simp only
    cases h1 : atOrAbove c e.mod with
    | true => exact Or.inl rfl
    | false =>
      refine (Classical.em (e.mod < after)).imp (fun h2 => by simp [h2]) fun h2 => ?_
      refine ⟨e, _, rfl, h1, by simp only [Bool.false_eq_true, if_false, h2]; rfl, ?_⟩
      split
      · exact Or.inl rfl
      · cases store e.prev with
        | none => exact Or.inl rfl
        | some t' => exact Or.inr ⟨t', rfl, rfl⟩

/-- every time reported is below the cutoff the walk started with -/
theorem trace_below_cutoff (store : String → Option (Tree K V)) (after : Int) (k : K) :
    ∀ (fuel : Nat) (t : Tree K V) (c : Int) (x : Int × Option V),
      x ∈ trace store after k fuel t (some c) → x.1 < c := by
  intro fuel
  induction fuel with
  | zero => intro t c x hx; cases hx
  | succ n ih =>
    intro t c x hx
    rcases trace_cases store after k n t (some c) with h | ⟨e, rest, _, h1, h, hr⟩ <;> rw [h] at hx
    · cases hx
    have hlt : e.mod < c := by simpa [atOrAbove] using h1
    rcases List.mem_cons.1 hx with rfl | hx
    · exact hlt
    rcases hr with rfl | ⟨t', _, rfl⟩
    · cases hx
    · exact Int.lt_trans (ih t' e.mod x hx) hlt

/-- **TraceHistory reports strictly decreasing times**, for every store of versions, every tree,
    every key, every `after` and however many versions it walks through -/
theorem trace_strictly_decreasing (store : String → Option (Tree K V)) (after : Int) (k : K) :
    ∀ (fuel : Nat) (t : Tree K V) (c : Option Int),
      (trace store after k fuel t c).Pairwise (fun a b => b.1 < a.1) := by
  intro fuel
  induction fuel with
  | zero => intro t c; exact .nil
  | succ n ih =>
    intro t c
    rcases trace_cases store after k n t c with h | ⟨e, rest, _, _, h, rfl | ⟨t', _, rfl⟩⟩ <;> rw [h]
    · exact List.Pairwise.nil
    · exact List.pairwise_singleton _ _
    · exact List.Pairwise.cons (trace_below_cutoff store after k n t' e.mod) (ih t' (some e.mod))

/-- **it starts at the current value**: whatever is reported first is the handle's own entry -/
theorem trace_starts_at_current (store : String → Option (Tree K V)) (after : Int) (k : K)
    (fuel : Nat) (t : Tree K V) (x : Int × Option V) (rest : List (Int × Option V))
    (h : trace store after k fuel t none = x :: rest) :
    ∃ e, lookup k t = some e ∧ x = (e.mod, e.val) := by
  cases fuel with
  | zero => cases h
  | succ n =>
    rcases trace_cases store after k n t none with h0 | ⟨e, _, hl, _, h0, _⟩ <;> rw [h0] at h
    · cases h
    · exact ⟨e, hl, (List.cons.inj h).1.symm⟩

/-- **only committed values**: everything reported is the entry of `k` in the handle's own tree
    or in a stored version -/
theorem trace_reports_stored_entries (store : String → Option (Tree K V)) (after : Int) (k : K) :
    ∀ (fuel : Nat) (t : Tree K V) (c : Option Int) (x : Int × Option V),
      x ∈ trace store after k fuel t c →
      (∃ e, lookup k t = some e ∧ x = (e.mod, e.val)) ∨
      (∃ name t' e, store name = some t' ∧ lookup k t' = some e ∧ x = (e.mod, e.val)) := by
  intro fuel
  induction fuel with
  | zero => intro t c x hx; cases hx
  | succ n ih =>
    intro t c x hx
    rcases trace_cases store after k n t c with h | ⟨e, rest, hl, _, h, hr⟩ <;> rw [h] at hx
    · cases hx
    rcases List.mem_cons.1 hx with rfl | hx
    · exact Or.inl ⟨e, hl, rfl⟩
    rcases hr with rfl | ⟨t', hs, rfl⟩
    · cases hx
    · exact Or.inr <| (ih t' (some e.mod) x hx).elim (fun ⟨e', he', hx'⟩ => ⟨e.prev, t', e', hs, he', hx'⟩) id

/-- non-vacuity: a three-step history is reported newest first -/
example :
    let v1 : Tree String String := [("a", { mod := 1, val := some "x" })]
    let v2 : Tree String String := [("a", { mod := 5, val := some "y", prev := "v1" })]
    let cur : Tree String String := [("a", { mod := 9, val := some "z", prev := "v2" })]
    trace (fun n => if n = "v1" then some v1 else if n = "v2" then some v2 else none) 0 "a" 10 cur none =
      [(9, some "z"), (5, some "y"), (1, some "x")] := by
  decide

end S3db.Props.C17
