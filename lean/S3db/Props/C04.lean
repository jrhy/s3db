import S3db.Model.Proto
import S3db.Gen.Facts
import S3db.Lemmas.ProtoInv
import S3db.Lemmas.JoinList
/-!
# C04 — a crash at any point of a commit leaves old or new contents, never a mixture

The table contents of a version are an element of a join-semilattice `C` (C01 shows that the row
merge is such a join on SQL-written rows); what an open shows is the join of the versions in
`root/current/`.  A commit of version `n` with parents `ps` issues `commitReqs F n ps` (order
taken from the **generated** facts); a crash after `k` of them leaves the bucket in the state the
first `k` produce.  `δ` is what the transaction adds (`⊥` for the merge commit of an open).
-/
namespace S3db.Props.C04
open S3db S3db.Proto

abbrev F : Facts := S3db.Gen.facts

structure JoinLaws {C : Type} (join : C → C → C) (bot : C) : Prop where
  assoc : ∀ a b c, join (join a b) c = join a (join b c)
  comm : ∀ a b, join a b = join b a
  idem : ∀ a, join a a = a
  bot_left : ∀ a, join bot a = a

def joinAll {C : Type} (join : C → C → C) (bot : C) (xs : List C) : C := xs.foldl join bot

/-- what any open of the bucket shows (read-only or read-write, any merge order: C01) -/
def view {C : Type} (join : C → C → C) (bot : C) (content : Vid → C) (b : Bucket) : C :=
  joinAll join bot (b.current.map content)

/-- the bucket after a crash that let the first `k` requests of the commit through -/
def crashAt (b : Bucket) (n : Vid) (ps : List Vid) (k : Nat) : Bucket :=
  ((commitReqs F n ps).take k).foldl Bucket.apply b

private theorem JoinLaws.laws {C : Type} {join : C → C → C} {bot : C} (L : JoinLaws join bot) :
    JoinList.Laws join bot := ⟨L.assoc, L.comm, L.idem, L.bot_left⟩

private theorem crashAt_eq (b : Bucket) (n : Vid) (ps : List Vid) (k : Nat) :
    crashAt b n ps k = ((JoinList.reqs n ps).take k).foldl Bucket.apply b := by
  unfold crashAt; rw [ProtoInv.commitReqs_eq]

/-- **old or new, never a mixture**, at every crash point `k` (including 0 and "all served") -/
theorem crash_old_or_new {C : Type} (join : C → C → C) (bot : C) (L : JoinLaws join bot)
    (content : Vid → C) (b : Bucket) (n : Vid) (ps : List Vid) (δ : C)
    (hps : ∀ p, p ∈ ps → p ∈ b.current) (hn : n ∉ b.current)
    (hcontent : content n = join (joinAll join bot (ps.map content)) δ) (k : Nat) :
    view join bot content (crashAt b n ps k) = view join bot content b ∨
    view join bot content (crashAt b n ps k) = join (view join bot content b) δ := by
  have _ := hn -- not needed: `addNew` avoids duplicates and the retire loop skips `n` itself
  rw [crashAt_eq]
  rcases JoinList.crash_view L.laws content b n ps δ hps hcontent k with ⟨_, h⟩ | ⟨_, h⟩
  · exact Or.inl h
  · exact Or.inr h

/-- once the version PUT was served the new contents are what every later open shows — in
    particular when the commit was acknowledged (all requests served) -/
theorem crash_after_put_is_new {C : Type} (join : C → C → C) (bot : C) (L : JoinLaws join bot)
    (content : Vid → C) (b : Bucket) (n : Vid) (ps : List Vid) (δ : C)
    (hps : ∀ p, p ∈ ps → p ∈ b.current) (hn : n ∉ b.current)
    (hcontent : content n = join (joinAll join bot (ps.map content)) δ) (k : Nat)
    (hk : Req.putCur n ∈ (commitReqs F n ps).take k) :
    view join bot content (crashAt b n ps k) = join (view join bot content b) δ := by
  have _ := hn
  rw [ProtoInv.commitReqs_eq] at hk
  have h2 := JoinList.putCur_mem_take hk
  rw [crashAt_eq]
  rcases JoinList.crash_view L.laws content b n ps δ hps hcontent k with ⟨h1, _⟩ | ⟨_, h⟩
  · omega
  · exact h

theorem acked_is_new {C : Type} (join : C → C → C) (bot : C) (L : JoinLaws join bot)
    (content : Vid → C) (b : Bucket) (n : Vid) (ps : List Vid) (δ : C)
    (hps : ∀ p, p ∈ ps → p ∈ b.current) (hn : n ∉ b.current)
    (hcontent : content n = join (joinAll join bot (ps.map content)) δ) :
    view join bot content (crashAt b n ps (commitReqs F n ps).length) = join (view join bot content b) δ := by
  apply crash_after_put_is_new join bot L content b n ps δ hps hn hcontent
  rw [List.take_length, ProtoInv.commitReqs_eq]
  simp [JoinList.reqs]

/-- all earlier committed data stays intact at every crash point -/
theorem crash_keeps_earlier_data {C : Type} (join : C → C → C) (bot : C) (L : JoinLaws join bot)
    (content : Vid → C) (b : Bucket) (n : Vid) (ps : List Vid) (δ : C)
    (hps : ∀ p, p ∈ ps → p ∈ b.current) (hn : n ∉ b.current)
    (hcontent : content n = join (joinAll join bot (ps.map content)) δ) (k : Nat) :
    join (view join bot content (crashAt b n ps k)) (view join bot content b) =
      view join bot content (crashAt b n ps k) := by
  have _ := hn
  rw [crashAt_eq]
  rcases JoinList.crash_view L.laws content b n ps δ hps hcontent k with ⟨_, h⟩ | ⟨_, h⟩
  · show join (JoinList.jall join bot _) (JoinList.jall join bot _) = JoinList.jall join bot _
    rw [h, L.idem]
  · show join (JoinList.jall join bot _) (JoinList.jall join bot _) = JoinList.jall join bot _
    rw [h, JoinList.join_absorb_new L.laws]

/-- every later open *succeeds*: a version is never visible under `root/current/` before all of
    its nodes are stored (the flush precedes the version PUT) -/
theorem nodes_before_root (b : Bucket) (n : Vid) (ps : List Vid) (k : Nat)
    (hb : ∀ v, v ∈ b.current → v ∈ b.nodes) :
    ∀ v, v ∈ (crashAt b n ps k).current → v ∈ (crashAt b n ps k).nodes := by
  rw [crashAt_eq]
  exact JoinList.crash_nodes b n ps k hb

/-- the merge commit of a recovery open (`δ = ⊥`) changes nothing at any of its own crash points -/
theorem recovery_open_is_stable {C : Type} (join : C → C → C) (bot : C) (L : JoinLaws join bot)
    (content : Vid → C) (b : Bucket) (n : Vid) (ps : List Vid)
    (hps : ∀ p, p ∈ ps → p ∈ b.current) (hn : n ∉ b.current)
    (hcontent : content n = joinAll join bot (ps.map content)) (k : Nat) :
    view join bot content (crashAt b n ps k) = view join bot content b := by
  have hcontent' : content n = join (joinAll join bot (ps.map content)) bot := by
    rw [L.laws.bot_right]; exact hcontent
  rcases crash_old_or_new join bot L content b n ps bot hps hn hcontent' k with h | h
  · exact h
  · rw [h, L.laws.bot_right]

/-- what "acknowledged" means in the source: `Commit` returns the error of the node flush and of
    the version PUT unconditionally (an acknowledged commit is one whose requests up to and
    including the version PUT were all served — the hypothesis of `acked_is_new`), in this order -/
theorem ack_facts :
    F.commitChecksErrors = true ∧ F.commitRemembersFailure = true ∧ F.failedCommitReopens = true ∧
    F.commitKeepsSnapshotOnError = true ∧ F.rollbackRestoresSnapshot = true ∧
    F.commitOrder = ["flushNodes", "putRoot", "retireParents"] :=
  ⟨rfl, rfl, rfl, rfl, rfl, rfl⟩

/-- non-vacuity on a concrete lattice (sets of naturals as sorted duplicate-free lists are
    awkward; `Nat` with `max` is a join-semilattice with bottom 0) -/
example : JoinLaws (C := Nat) max 0 :=
  { assoc := Nat.max_assoc, comm := Nat.max_comm, idem := Nat.max_self, bot_left := Nat.zero_max }

end S3db.Props.C04
