import S3db.Model.Value
import S3db.Lemmas.RowMerge
import S3db.Props.C16
/-!
# C08 — stored values come back unchanged in value and storage class

Values are carried, never computed on: conversion in and out (`NewKey`/`toSQLiteValue`,
`FromSQLiteValue`/`Key.Value`) is a bijection on the five storage classes, the row merge only ever
returns values it was given (it is parametric in the value type), and the node codec returns what
it was given (C16).  What crosses the cgo boundary (how `""` and empty blobs reach SQLite) is
runtime behaviour outside the model: exercised by the `sql` stream (`typeof`, `hex`), finding F10.
-/
namespace S3db.Props.C08
open S3db S3db.AList S3db.Row

/-- `FromSQLiteValue (toSQLiteValue v) = v` for every value of every storage class -/
theorem from_to (v : Val) : Val.ofSQLite (Val.toSQLite v) = v := by
  cases v <;> rfl

/-- the storage class is kept -/
theorem class_kept (v : Val) : (Val.toSQLite v).ty =
    match v with
    | .null => .NULL | .int _ => .INT | .real _ => .REAL | .text _ => .TEXT | .blob _ => .BLOB := by
  cases v <;> rfl

variable {V : Type}

/-- **the merge never alters a value**: every column of a merged row is, value and time, a column
    of one of the two rows merged -/
theorem merge_preserves_values (r1 r2 : ARow V) (c : String) (x : ACol V)
    (h : lookup c (mergeRows r1 r2).cols = some x) :
    lookup c r1.cols = some x ∨ lookup c r2.cols = some x := by
  -- the later of the two cells, unless `hideDeletedValue` drops it
  rw [lookup_mergeRows, Option.bind_eq_some_iff] at h
  obtain ⟨w, hw, hk⟩ := h
  unfold keep at hk
  split at hk
  · cases hk
  · cases hk; exact Sel.selOpt_pick colLaws hw

/-- an INSERT stores exactly the values it was given, for every column it names -/
theorem insert_stores_given (when : Int) (vals : AList String V) (c : String) :
    lookup c (Table.stamp when vals) = (lookup c vals).map fun v => ({ v := v, t := when } : ACol V) :=
  lookup_stamp when vals c

/-- the codec returns the entry it was given (C16), so the row payload is untouched -/
theorem codec_keeps_rows {R : Type} (e : Codec.Entry R) :
    Codec.unmarshalEntry C16.F (Codec.marshalEntry C16.F e) = e :=
  C16.entry_roundtrip e

/-! ### the key column of an UPDATE (F77)

Changing a key is not implemented.  The SQLite binding decides between "update in place" and
"replace" by a comparison of its own that lets a new key pass as unchanged whenever it converts to
the old one (`binding old new`, about which nothing is assumed); `VirtualTable.Update` then
addresses the row by the old key.  `updateRefusesKeyChange`: it first compares the two, value and
storage class. -/

/-- what an UPDATE assigning `new` to the key of the row `old` does: `none` = refused, `some k` =
    applied to the row whose key then reads back as `k` -/
def updateKey (F : Facts) (binding : Val → Val → Bool) (old new : Val) : Option Val :=
  if !binding old new then none                                   -- Replace: "unimplemented"
  else if F.updateRefusesKeyChange && decide (new ≠ old) then none
  else some old

/-- **a key that is written is the key that is read back, or the statement is refused** —
    whatever the binding takes for "unchanged" -/
theorem key_update_stored_or_refused (binding : Val → Val → Bool) (old new k : Val)
    (h : updateKey S3db.Gen.facts binding old new = some k) : k = new := by
  unfold updateKey at h
  split at h
  · cases h
  · -- the comparison is in the source: the statement gets through only if `new = old`
    rw [show S3db.Gen.facts.updateRefusesKeyChange = true from rfl, Bool.true_and] at h
    split at h
    · cases h
    · next hne => cases h; exact (Decidable.of_not_not (mt decide_eq_true hne)).symm

/-- an UPDATE that leaves the key alone (SQLite passes the old key as the new one) is applied -/
theorem same_key_update_applied (binding : Val → Val → Bool) (old : Val) (hb : binding old old = true) :
    updateKey S3db.Gen.facts binding old old = some old := by
  simp [updateKey, hb]

/-- the defect F77 on the model without the comparison, with a binding that compares through the
    old key's accessor (the text `3` read as an integer is `3`): the statement succeeds with the old key -/
theorem without_comparison_coerced_key_kept :
    let F0 : Facts := { S3db.Gen.facts with updateRefusesKeyChange := false }
    let binding : Val → Val → Bool := fun _ _ => true
    updateKey F0 binding (.int 3) (.text [51]) = some (.int 3) := by
  decide

theorem key_update_facts :
    S3db.Gen.facts.updateRefusesKeyChange = true ∧ S3db.Gen.facts.rowidCannotBeAssigned = true :=
  ⟨rfl, rfl⟩

end S3db.Props.C08
