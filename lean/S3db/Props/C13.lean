import S3db.Props.C03
import S3db.Model.Txn
/-!
# C13 — a read-only table never modifies the bucket

In the request-level model a read-only client can start opens and (attempt) commits in any
interleaving with other clients; the theorem says that no request it ever gets served is a PUT or
a DELETE.  What makes this true is read from the source on every run: the `ErrReadOnly` guards
(`roGuards`, `commitGuardBeforeFlush`), `Open` committing only `if !opts.ReadOnly`, and `Sync`
returning early for read-only tables.
-/
namespace S3db.Props.C13
open S3db S3db.Proto S3db.Props.C03

/-- the read-only flag of a client never changes -/
theorem ro_constant (s : Sys) (i : Nat) (a : Act) (j : Nat) (c : Client)
    (hc : s.clients[j]? = some c) :
    ∃ c', (step F s i a).clients[j]? = some c' ∧ c'.ro = c.ro :=
  (ProtoInv.step_later s i a).client hc

/-- **no PUT, no DELETE**, under any schedule, for any number of clients -/
theorem ro_no_mutation (s : Sys) (h : Reachable s) (i : Nat) (r : Req) (c : Client)
    (ht : (i, r) ∈ s.trace) (hc : s.clients[i]? = some c) (hro : c.ro = true) :
    r.mutation = false :=
  h.inv.ro_no_mutation ht hc hro

/-- the guards, as found in the source on this run -/
theorem ro_guards :
    F.roGuards = ["Commit", "DeleteHistoricVersions", "Set", "Tombstone"] ∧
    F.commitGuardBeforeFlush = true ∧ F.openCommitsOnlyIfRW = true ∧
    F.syncSkipsRO = true ∧ F.onlyVersionsRequiresRO = true :=
  ⟨rfl, rfl, rfl, rfl, rfl⟩

/-- without the guard on `Commit` a read-only handle does write: the model exhibits it -/
theorem without_commit_guard_ro_writes :
    let F0 : Facts := { F with roGuards := ["DeleteHistoricVersions", "Set", "Tombstone"] }
    let s0 := run F0 (init [true]) [(0, .startCommit), (0, .step), (0, .step)]
    s0.trace.any (fun p => p.2.mutation) = true := by
  decide

/-! ### the table side: a refused write leaves a read-only table as it was (F57)

A write statement against a read-only table gets as far as xBegin (which takes the snapshot) and
is refused in xUpdate; SQLite then ends the transaction through xSync/xCommit.  The rows never
change, and the table must be ready for the next statement. -/

open S3db.Txn in
/-- after any number of refused write attempts a read-only table shows the rows it showed, and
    has no transaction left open: every attempt is refused for being a write, none for a
    "transaction already in progress" -/
theorem ro_write_attempts_leave_table (K V : Type) (t : Tx K V) (hs : t.snapshot = none) (n : Nat) :
    ∃ t', (Nat.repeat (fun (o : Option (Tx K V)) => o.bind fun t => (t.begin F).map (·.syncRO F)) n (some t)) = some t' ∧
      t'.live = t.live ∧ t'.snapshot = none := by
  obtain ⟨live, _⟩ := t
  cases hs
  refine ⟨_, ?_, rfl, rfl⟩
  induction n with
  | zero => rfl
  | succ n ih => rw [Nat.repeat, ih]; rfl   -- one refused attempt gives the table back as it was

open S3db.Txn in
/-- the defect F57 on the model with the early return: the second write attempt is refused by
    `Begin` itself ("transaction already in progress") -/
theorem without_ro_sync_rollback_second_begin_fails :
    let F0 : Facts := { F with roSyncEndsTransaction := false }
    let t : Tx Nat Nat := { live := [] }
    ((t.begin F0).map (·.syncRO F0)).bind (·.begin F0) = none := by
  decide

theorem ro_sync_facts : F.roSyncEndsTransaction = true ∧ F.syncSkipsRO = true := ⟨rfl, rfl⟩

end S3db.Props.C13
