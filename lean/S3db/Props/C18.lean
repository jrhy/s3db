import S3db.Model.Box
import S3db.Lemmas.BoxLemmas
import S3db.Model.Facts
import S3db.Gen.Facts
/-!
# C18 — node encryption: what is written can be read back, and only what verifies is accepted

Theorems about the executable model of `kv/crypto.go` in `Model/Box.lean` (validated byte for byte
against the Go code), for ALL keys, nonces and messages of ALL lengths.  Salsa20 and Poly1305 are
never evaluated (the witness of 8g apart): the keystream enters only as the function
`K key nonce : Nat → Nat`, of which nothing is used but `ks_lt_256`, and the MAC as an uninterpreted
function of (MAC key, ciphertext).  The unforgeability of Poly1305 is an ASSUMPTION outside these
theorems: `open_checks_tag` says that acceptance is exactly the tag comparison.

The round-trip theorems need no length or range hypotheses at all (XOR with the same value twice
is the identity on every natural); `nonce.length = 24` is needed wherever `decrypt` has to split
the nonce off again.
-/
namespace S3db.Props.C18
open S3db S3db.Box

/-- the XSalsa20 keystream of (key, 24-byte nonce) as a function of the byte position -/
abbrev K (key nonce : Bytes) : Nat → Nat := ks (subkey key nonce) (nonce8 nonce)

/-- the four functions as instances of the generic pair (`BoxLemmas`), over the abstract keystream -/
theorem secretboxSeal_eq (key nonce m : Bytes) :
    secretboxSeal key nonce m = sealWith (macKey key nonce) (xorAt (K key nonce) 32) m := by
  simp only [secretboxSeal, sealWith, xorKeyStream_eq]

theorem legacySeal_eq (key nonce m : Bytes) :
    legacySeal key nonce m = sealWith (macKey key nonce) (legacyXorAt (K key nonce)) m := by
  simp only [legacySeal, sealWith, legacyXor_eq]

theorem secretboxOpen_eq (key nonce box : Bytes) :
    secretboxOpen key nonce box = openWith (macKey key nonce) (xorAt (K key nonce) 32) box := by
  simp only [secretboxOpen, openWith, xorKeyStream_eq]

theorem legacyOpen_eq (key nonce box : Bytes) :
    legacyOpen key nonce box = openWith (macKey key nonce) (legacyXorAt (K key nonce)) box := by
  simp only [legacyOpen, openWith, legacyXor_eq]

theorem decrypt_append (key nonce box : Bytes) (hn : nonce.length = 24) :
    decrypt key (nonce ++ box) =
      match secretboxOpen key nonce box with
      | some m => some m
      | none => legacyOpen key nonce box := by
  unfold decrypt
  rw [if_neg (by simp; omega), List.take_left' hn, List.drop_left' hn]
  cases secretboxOpen key nonce box <;> rfl

/-- 1. what `secretbox.Seal` produces, `secretbox.Open` returns — every key, nonce, message -/
theorem secretbox_open_seal (key nonce m : Bytes) :
    secretboxOpen key nonce (secretboxSeal key nonce m) = some m := by
  rw [secretboxSeal_eq, secretboxOpen_eq, openWith_sealWith, xorAt_xorAt]

/-- 2. `decrypt` inverts `encrypt` (for whatever 24-byte nonce `encrypt` derived) -/
theorem decrypt_encrypt (key nonce m : Bytes) (hn : nonce.length = 24) :
    decrypt key (encryptWith key nonce m) = some m := by
  unfold encryptWith
  rw [decrypt_append key nonce _ hn, secretbox_open_seal]

/-- 3. the legacy pair round-trips, across the 32-byte boundary, every length -/
theorem legacy_open_seal (key nonce m : Bytes) :
    legacyOpen key nonce (legacySeal key nonce m) = some m := by
  rw [legacySeal_eq, legacyOpen_eq, openWith_sealWith, legacyXorAt_involutive]

/-- 4a. the ciphertext is a function of (key, nonce, message): there is no other input -/
theorem encrypt_deterministic (key key' nonce nonce' m m' : Bytes)
    (hk : key = key') (hn : nonce = nonce') (hm : m = m') :
    encryptWith key nonce m = encryptWith key' nonce' m' := by
  subst hk hn hm; rfl

/-- 4b. … and under one (key, nonce) it determines the message -/
theorem encryptWith_eq_iff (key nonce m m' : Bytes) :
    encryptWith key nonce m = encryptWith key nonce m' ↔ m = m' := by
  refine ⟨fun h => ?_, fun h => by rw [h]⟩
  have := congrArg (secretboxOpen key nonce) (List.append_cancel_left h)
  rwa [secretbox_open_seal, secretbox_open_seal, Option.some.injEq] at this

theorem secretboxSeal_length (key nonce m : Bytes) : (secretboxSeal key nonce m).length = 16 + m.length := by
  rw [secretboxSeal_eq, sealWith_length, xorAt_length]

theorem legacySeal_length (key nonce m : Bytes) : (legacySeal key nonce m).length = 16 + m.length := by
  rw [legacySeal_eq, sealWith_length, legacyXorAt_length]

/-- 4c. nonce ‖ tag ‖ ciphertext -/
theorem encryptWith_length (key nonce m : Bytes) (hn : nonce.length = 24) :
    (encryptWith key nonce m).length = 24 + 16 + m.length := by
  rw [encryptWith, List.length_append, hn, secretboxSeal_length]; omega

theorem secretboxSeal_bytes (key nonce m : Bytes) (hm : ∀ b ∈ m, b < 256) :
    ∀ b ∈ secretboxSeal key nonce m, b < 256 := by
  rw [secretboxSeal_eq]
  exact sealWith_lt _ _ _ (xorAt_lt _ (ks_lt_256 _ _) m 32 hm)

theorem legacySeal_bytes (key nonce m : Bytes) (hm : ∀ b ∈ m, b < 256) :
    ∀ b ∈ legacySeal key nonce m, b < 256 := by
  rw [legacySeal_eq]
  exact sealWith_lt _ _ _ (legacyXorAt_lt _ (ks_lt_256 _ _) m hm)

theorem encryptWith_bytes (key nonce m : Bytes) (hn : ∀ b ∈ nonce, b < 256) (hm : ∀ b ∈ m, b < 256) :
    ∀ b ∈ encryptWith key nonce m, b < 256 := by
  intro b hb
  rcases List.mem_append.mp hb with h | h
  · exact hn b h
  · exact secretboxSeal_bytes key nonce m hm b h

/-- 5a. no room for a nonce -/
theorem short_input_rejected (key c : Bytes) (h : c.length < 24) : decrypt key c = none := by
  simp [decrypt, h]

/-- 5b. no room for a tag after the nonce: rejected by BOTH formats -/
theorem short_box_rejected (key c : Bytes) (h : c.length < 40) : decrypt key c = none := by
  unfold decrypt
  split
  · rfl
  · simp [secretboxOpen, legacyOpen, show c.length - 24 < 16 by omega]

/-- 6a. `secretbox.Open` succeeds exactly when the first 16 bytes are the Poly1305 tag of the rest
    under the MAC key, and then returns the rest XOR keystream from position 32 -/
theorem secretboxOpen_some_iff (key nonce box m : Bytes) :
    secretboxOpen key nonce box = some m ↔
      16 ≤ box.length ∧ box.take 16 = poly1305 (macKey key nonce) (box.drop 16) ∧
        m = xorAt (K key nonce) 32 (box.drop 16) := by
  rw [secretboxOpen_eq, openWith_eq_some_iff]

/-- 6. whatever `secretbox.Open` accepts carries the right tag -/
theorem open_checks_tag (key nonce box m : Bytes) (h : secretboxOpen key nonce box = some m) :
    box.take 16 = poly1305 (macKey key nonce) (box.drop 16) :=
  ((secretboxOpen_some_iff key nonce box m).1 h).2.1

/-- 6'. … and so does whatever the legacy open accepts — the SAME check -/
theorem legacy_open_checks_tag (key nonce box m : Bytes) (h : legacyOpen key nonce box = some m) :
    box.take 16 = poly1305 (macKey key nonce) (box.drop 16) := by
  rw [legacyOpen_eq, openWith_eq_some_iff] at h
  exact h.2.1

/-- the MAC key is keystream bytes 0 … 31, disjoint from the positions (32 …) that encrypt the
    current format — but NOT from the positions (0 …) the legacy format reuses for the tail -/
theorem macKey_is_keystream (key nonce : Bytes) : macKey key nonce = (List.range 32).map (K key nonce) := by
  rw [macKey, salsa20Block_eq, ← List.map_take, List.take_range]
  simp

/-- 7. when the current format verifies, its result is returned; the legacy path is not consulted.
    (The nonce `decrypt` uses is `c.take 24`; for `c` shorter than 24 the hypothesis is false.) -/
theorem fallback_only_after_failure (key c m : Bytes)
    (h : secretboxOpen key (c.take 24) (c.drop 24) = some m) : decrypt key c = some m := by
  have hl := ((secretboxOpen_some_iff _ _ _ _).1 h).1
  rw [List.length_drop] at hl
  rw [decrypt, if_neg (by omega), h]

/-- 7'. the same with the nonce split off -/
theorem fallback_only_after_failure' (key nonce box m : Bytes) (hn : nonce.length = 24)
    (h : secretboxOpen key nonce box = some m) : decrypt key (nonce ++ box) = some m := by
  rw [decrypt_append key nonce box hn, h]

/-- FINDING: the two open functions accept exactly the same boxes (same length test, same MAC key,
    same tag comparison) … -/
theorem legacyOpen_isSome_iff (key nonce box : Bytes) :
    (legacyOpen key nonce box).isSome = (secretboxOpen key nonce box).isSome := by
  rw [legacyOpen_eq, secretboxOpen_eq, openWith_isSome]

/-- … so whenever the fallback is reached it fails: it is dead code -/
theorem fallback_unreachable (key nonce box : Bytes) (h : secretboxOpen key nonce box = none) :
    legacyOpen key nonce box = none := by
  simpa [h] using legacyOpen_isSome_iff key nonce box

/-- `decrypt` IS the current-format open; the legacy format contributes nothing -/
theorem decrypt_eq_secretboxOpen (key c : Bytes) :
    decrypt key c = if c.length < 24 then none else secretboxOpen key (c.take 24) (c.drop 24) := by
  unfold decrypt
  split
  · rfl
  · cases h : secretboxOpen key (c.take 24) (c.drop 24) with
    | some m => rfl
    | none => exact fallback_unreachable _ _ _ h

/-- whatever `decrypt` returns passed the tag check on the bytes after the nonce -/
theorem decrypt_checks_tag (key c m : Bytes) (h : decrypt key c = some m) :
    24 + 16 ≤ c.length ∧
      (c.drop 24).take 16 = poly1305 (macKey key (c.take 24)) ((c.drop 24).drop 16) := by
  rw [decrypt_eq_secretboxOpen] at h
  split at h
  · cases h
  · rw [secretboxOpen_some_iff, List.length_drop] at h
    exact ⟨by omega, h.2.1⟩

/-- 8a. the legacy tag is the tag the current format puts on the same ciphertext bytes -/
theorem legacy_same_mac (key nonce m : Bytes) :
    (legacySeal key nonce m).take 16 = poly1305 (macKey key nonce) ((legacySeal key nonce m).drop 16) := by
  rw [legacySeal_eq, sealWith, take_tag, drop_tag]

/-- 8b. every legacy box IS a well-formed current-format box — of another message -/
theorem legacy_box_is_secretbox (key nonce m : Bytes) :
    legacySeal key nonce m = secretboxSeal key nonce (xorAt (K key nonce) 32 (legacyXorAt (K key nonce) m)) := by
  rw [legacySeal_eq, secretboxSeal_eq, sealWith, sealWith, xorAt_xorAt]

/-- 8c. the current open ACCEPTS a legacy box (so the fallback is not taken) -/
theorem secretboxOpen_legacySeal (key nonce m : Bytes) :
    secretboxOpen key nonce (legacySeal key nonce m) =
      some (m.take 32 ++ xorAt (K key nonce) 64 (xorAt (K key nonce) 0 (m.drop 32))) := by
  rw [legacySeal_eq, secretboxOpen_eq, openWith_sealWith, xorAt_legacyXorAt]

theorem legacy_not_rejected (key nonce m : Bytes) : secretboxOpen key nonce (legacySeal key nonce m) ≠ none := by
  rw [secretboxOpen_legacySeal]; simp

/-- 8d. FINDING: `decrypt` of legacy-format data "succeeds" with the first 32 bytes of the message
    followed by the rest XORed with keystream block 0 XOR block 1 -/
theorem decrypt_legacy (key nonce m : Bytes) (hn : nonce.length = 24) :
    decrypt key (nonce ++ legacySeal key nonce m) =
      some (m.take 32 ++ xorAt (K key nonce) 64 (xorAt (K key nonce) 0 (m.drop 32))) := by
  rw [decrypt_append key nonce _ hn, secretboxOpen_legacySeal]

/-- 8e. up to 32 bytes the two formats coincide … -/
theorem legacySeal_short (key nonce m : Bytes) (h : m.length ≤ 32) :
    legacySeal key nonce m = secretboxSeal key nonce m := by
  rw [legacySeal_eq, secretboxSeal_eq, sealWith, sealWith, legacyXorAt_short _ m h]

/-- … so short legacy data is readable -/
theorem legacy_short_readable (key nonce m : Bytes) (hn : nonce.length = 24) (h : m.length ≤ 32) :
    decrypt key (nonce ++ legacySeal key nonce m) = some m := by
  rw [legacySeal_short key nonce m h]
  exact decrypt_encrypt key nonce m hn

/-- 8f. the exact condition under which legacy data of ANY length is read back correctly: keystream
    blocks 0 and 1 agree on the first `m.length - 32` bytes.  For `m.length ≤ 32` it is vacuous;
    beyond, it fails for (all but a negligible fraction of) keys and nonces — see the witness in the
    correspondence vectors, where the Go `decrypt` returns different bytes -/
theorem legacy_long_readable_iff (key nonce m : Bytes) (hn : nonce.length = 24) :
    decrypt key (nonce ++ legacySeal key nonce m) = some m ↔
      ∀ j, 32 + j < m.length → K key nonce j = K key nonce (64 + j) := by
  rw [decrypt_legacy key nonce m hn, Option.some.injEq]
  conv => lhs; rhs; rw [← List.take_append_drop 32 m]
  rw [List.append_cancel_left_eq, xorAt_twice_eq_self_iff]
  simp only [List.length_drop, Nat.zero_add, Nat.lt_sub_iff_add_lt']

/-! ## a concrete witness (correspondence vector `box.ops` lines 6069–6071)

The only place where Salsa20 is evaluated (by the kernel: the HSalsa20 subkey and the first word of
blocks 0 and 1): key, nonce and the 33-byte message of a vector on which the Go `decrypt` returns
`…c03311` for legacy data that was `…c0338d`. -/

def wKey : Bytes := [0x17, 0x97, 0xe6, 0x6d, 0x42, 0xc3, 0x02, 0xec, 0xee, 0x09, 0xf4, 0xc3, 0x7c, 0xb0, 0x9e, 0x04,
  0x83, 0x7e, 0xc3, 0x66, 0x54, 0x81, 0xfe, 0xdc, 0xb1, 0x48, 0x6a, 0x6c, 0x1b, 0x2d, 0x75, 0xe5]
def wNonce : Bytes := [0x8a, 0x50, 0xe0, 0xa1, 0xef, 0x10, 0xac, 0xe9, 0x79, 0x25, 0x1b, 0x4f, 0x36, 0xb2, 0x25, 0x0f,
  0x53, 0x2f, 0xdb, 0x77, 0x7e, 0x7d, 0x88, 0x98]
def wMsg : Bytes := [0xa9, 0xfe, 0x40, 0x55, 0xce, 0x9f, 0xb8, 0x5a, 0x86, 0xe8, 0xd9, 0x07, 0xf4, 0xf0, 0xdb, 0xe1,
  0xb8, 0xfe, 0xb1, 0x63, 0xfd, 0xc1, 0xb6, 0x28, 0x11, 0x39, 0x9e, 0x3c, 0xcd, 0x4d, 0xc0, 0x33, 0x8d]

/-- the two keystream bytes that meet in the tail of a 33-byte message: the first of block 0, which
    the legacy format put there, and the first of block 1, which the current format takes off -/
theorem witness_tail : K wKey wNonce 0 = 0xb3 ∧ K wKey wNonce 64 = 0x2f := by
  decide +kernel

/-- 8g. COUNTER-EXAMPLE to "legacy data is recovered": the 33-byte message comes back with its last
    byte `0x8d` replaced by `0x11`, without an error — exactly what the Go code returns -/
theorem legacy_long_garbled_witness :
    decrypt wKey (wNonce ++ legacySeal wKey wNonce wMsg) = some (wMsg.take 32 ++ [0x11]) ∧
      some (wMsg.take 32 ++ [0x11]) ≠ some wMsg := by
  constructor
  · rw [decrypt_legacy wKey wNonce wMsg rfl]
    show some (_ ++ [0x8d ^^^ K wKey wNonce 0 ^^^ K wKey wNonce 64]) = _
    rw [witness_tail.1, witness_tail.2]
    rfl
  · decide

/-- 8h. under this key and nonce NO legacy message longer than 32 bytes is read back correctly -/
theorem legacy_long_unreadable_witness :
    wKey.length = 32 ∧ wNonce.length = 24 ∧
      ∀ m : Bytes, 32 < m.length → decrypt wKey (wNonce ++ legacySeal wKey wNonce m) ≠ some m := by
  refine ⟨rfl, rfl, fun m hm h => ?_⟩
  have := (legacy_long_readable_iff wKey wNonce m rfl).1 h 0 (by omega)
  rw [witness_tail.1, witness_tail.2] at this
  cases this

/-! ## 9: the passphrase path

`V1NodeEncryptor(passphrase)` is `encrypt`/`decrypt` under the key `deriveKey(passphrase, nil)`;
`deriveKey` is argon2id over the base64 of its arguments with a salt hashed from them — a function
of its arguments that keeps no state and leaves them alone (`passphrase_facts`: the source text
of the three functions is the known one).  The key derivation itself is not modelled: it enters
as an arbitrary function `kdf`.  That different passphrases give keys that do not open each
other's data is a cryptographic ASSUMPTION (collision resistance of argon2id, unforgeability of
Poly1305); the box stream tries five different passphrases on every third message. -/

/-- 9a. every encryptor built from the same passphrase reads what any of them wrote -/
theorem same_passphrase_reads (kdf : Bytes → Bytes) (pass pass' nonce m : Bytes)
    (hp : pass = pass') (hn : nonce.length = 24) :
    decrypt (kdf pass') (encryptWith (kdf pass) nonce m) = some m := by
  subst hp; exact decrypt_encrypt _ _ _ hn

/-- 9b. … and writes the same bytes (so an unchanged node is not stored twice) -/
theorem same_passphrase_same_ciphertext (kdf : Bytes → Bytes) (pass pass' nonce m : Bytes)
    (hp : pass = pass') : encryptWith (kdf pass) nonce m = encryptWith (kdf pass') nonce m := by
  subst hp; rfl

theorem passphrase_facts : S3db.Gen.facts.deriveKeyAsExpected = true := rfl

/-- a stored node object is only accepted under the name its content hashes to: the MAC says
    "sealed with this key", the name check says "belongs here" (F64: a node overwritten with
    another node's valid ciphertext) -/
theorem node_name_facts : S3db.Gen.facts.nodeContentChecked = true := rfl

/-! ### the node store above the box (F64)

`persistEncryptor.Store` puts `encrypt(plain)` under the name `hash(plain)`; `Load` decrypts what it
finds under a name and — `nodeContentChecked` — accepts it only if it hashes to that name.  `hash`
(BLAKE2b-256, base64) enters as an arbitrary function; nothing is assumed about it except, in
`swapped_node_refused`, that the two contents at hand do not collide. -/

/-- `persistEncryptor.Load` on the bytes `obj` found under `name` -/
def loadNode (F : Facts) (hash : Bytes → Bytes) (key : Bytes) (name : Bytes) (obj : Bytes) : Option Bytes :=
  match decrypt key obj with
  | none => none
  | some plain => if F.nodeContentChecked && hash plain != name then none else some plain

/-- what was stored under its own name is read back -/
theorem stored_node_loads (hash : Bytes → Bytes) (key nonce m : Bytes) (hn : nonce.length = 24) :
    loadNode S3db.Gen.facts hash key (hash m) (encryptWith key nonce m) = some m := by
  simp [loadNode, decrypt_encrypt key nonce m hn]

/-- **another node's object under this name is refused**, although it is authentic under the
    same key: an attacker (or a stray copy) cannot swap nodes, e.g. put an older node back -/
theorem swapped_node_refused (hash : Bytes → Bytes) (key nonce m m' : Bytes) (hn : nonce.length = 24)
    (hne : hash m' ≠ hash m) :
    loadNode S3db.Gen.facts hash key (hash m) (encryptWith key nonce m') = none := by
  simp [loadNode, decrypt_encrypt key nonce m' hn, node_name_facts, hne]

/-- whatever `Load` returns hashes to the name it was asked for -/
theorem loaded_node_matches_name (hash : Bytes → Bytes) (key name obj plain : Bytes)
    (h : loadNode S3db.Gen.facts hash key name obj = some plain) : hash plain = name := by
  unfold loadNode at h
  split at h
  · cases h
  · split at h
    · cases h
    · next hne =>
      cases h
      simpa [node_name_facts] using hne

/-- the defect F64 on the model without the check: the swapped object is accepted -/
theorem without_name_check_swap_accepted (hash : Bytes → Bytes) (key nonce m m' : Bytes) (hn : nonce.length = 24) :
    let F0 : Facts := { S3db.Gen.facts with nodeContentChecked := false }
    loadNode F0 hash key (hash m) (encryptWith key nonce m') = some m' := by
  simp [loadNode, decrypt_encrypt key nonce m' hn]

end S3db.Props.C18
