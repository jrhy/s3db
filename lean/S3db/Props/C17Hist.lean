import S3db.Model.Kv
import S3db.Lemmas.KvMerge
/-!
# C17, history level — any sequence of `Set` / `Tombstone` calls refines a three-state cell

`Props/C17.lean` states the rules one call at a time.  Here they are lifted to **every history**:
for every list of operations (any length, any keys, any times after the epoch, in any order of
times) applied to any tree, what `Get` answers for a key is what a three-state abstract cell
(`absent`, `live w v`, `dead`) answers after the same operations — the documented rule, read as
a specification short enough to check by eye:

* a `Set` replaces a live value iff it is not older than it (ties go to the later call),
* a `Tombstone` kills the key, and nothing brings it back (no later `Set`, at any time).

The model functions are those of `Model/Kv.lean` (over the **generated** `lastWriteWins`).
-/
namespace S3db.Props.C17Hist
open S3db S3db.AList S3db.Gen.Crdt S3db.Kv

set_option linter.unusedSectionVars false
variable {K V : Type} [DecidableEq K] [DecidableEq V]

/-- one call on a `kv.DB` handle -/
inductive KOp (K V : Type) where
  | set (when : Int) (k : K) (v : V)
  | del (when : Int) (k : K)

def KOp.time : KOp K V → Int
  | .set w _ _ => w
  | .del w _ => w

def KOp.key : KOp K V → K
  | .set _ k _ => k
  | .del _ k => k

/-- the implementation side: `Tree.Set` / `Tree.Tombstone` of the model -/
def applyOp (src : Option String) (t : Tree K V) : KOp K V → Tree K V
  | .set w k v => Kv.set src t w k v
  | .del w k => Kv.tombstone src t w k

def runOps (src : Option String) (t : Tree K V) (ops : List (KOp K V)) : Tree K V :=
  ops.foldl (applyOp src) t

/-- the specification: what is known about one key -/
inductive Cell (V : Type) where
  | absent
  | live (w : Int) (v : V)
  | dead
deriving DecidableEq, Repr

/-- the documented rule, for the key `k` -/
def cellStep (k : K) (c : Cell V) : KOp K V → Cell V
  | .set w k' v =>
    if k' = k then
      match c with
      | .absent => .live w v
      | .live w0 v0 => if w0 ≤ w then .live w v else .live w0 v0
      | .dead => .dead
    else c
  | .del _ k' => if k' = k then .dead else c

def cellRun (k : K) (c : Cell V) (ops : List (KOp K V)) : Cell V := ops.foldl (cellStep k) c

/-- what a reader sees of a cell -/
def Cell.read : Cell V → Option (Int × V)
  | .live w v => some (w, v)
  | _ => none

/-- what `Get` shows of an entry: modification time and payload -/
def readGet (t : Tree K V) (k : K) : Option (Int × V) :=
  match Kv.get t k with
  | some e => match e.val with
    | some v => some (e.mod, v)
    | none => none
  | none => none

/-- the abstraction relation between the stored entry of a key and its cell -/
def Rep : Option (Entry V) → Cell V → Prop
  | none, .absent => True
  | some e, .live w v => e.tomb = 0 ∧ e.mod = w ∧ e.val = some v
  | some e, .dead => 0 < e.tomb
  | _, _ => False

theorem rep_read (t : Tree K V) (k : K) (c : Cell V) (h : Rep (lookup k t) c) :
    readGet t k = c.read := by
  unfold readGet Kv.get
  generalize lookup k t = o at h
  cases o <;> cases c <;> simp_all [Rep, Cell.read]

theorem cellStep_other {k : K} (c : Cell V) {op : KOp K V} (h : op.key ≠ k) : cellStep k c op = c := by
  cases op <;> exact if_neg h

/-- **one step**: the tree after a call refines the cell after the same call.  At the written key
    this is the gate equation of the call (`Kv.lookup_set`, `Kv.lookup_tombstone`) against the rule;
    only a `Tombstone` needs a time after the epoch (`tomb = 0` is how an entry says it is live) -/
theorem step_refines (src : Option String) (t : Tree K V) (k : K) (c : Cell V) (op : KOp K V)
    (hpos : ∀ w k, op = .del w k → 0 < w) (h : Rep (lookup k t) c) :
    Rep (lookup k (applyOp src t op)) (cellStep k c op) := by
  by_cases hk : op.key = k
  case neg =>
    rw [cellStep_other c hk]
    cases op <;> exact (lookup_update_ne src t _ hk).symm ▸ h
  cases op with
  | set w k' v =>
    have hk : k' = k := hk
    subst hk
    rw [applyOp, lookup_set]
    simp only [cellStep, if_true]
    generalize lookup k' t = o at h ⊢
    cases o <;> cases c <;> try exact h.elim
    case none.absent => exact ⟨rfl, rfl, rfl⟩
    case some.live ex w0 v0 =>
      obtain ⟨ht, rfl, hv⟩ := h
      simp only [ht, true_and]
      split
      · exact ⟨rfl, rfl, rfl⟩
      · exact ⟨ht, rfl, hv⟩
    case some.dead ex =>
      have : ¬ (ex.tomb = 0 ∧ ex.mod ≤ w) := fun h' => Int.ne_of_gt h h'.1
      simp only [this, if_false]; exact h
  | del w k' =>
    have hk : k' = k := hk
    subst hk
    have hw := hpos w k' rfl
    rw [applyOp, lookup_tombstone src t (Int.ne_of_gt hw)]
    simp only [cellStep, if_true]
    generalize lookup k' t = o at h ⊢
    cases o <;> cases c <;> try exact h.elim
    case none.absent => exact hw
    case some.live ex w0 v0 => simp only [h.1, true_or, if_true]; exact hw
    case some.dead ex =>
      -- replaced by the new tombstone, or it stays
      simp only
      split
      · exact hw
      · exact h

/-- **every history**: refinement is kept along any list of calls whose `Tombstone`s have times
    after the epoch -/
theorem run_refines (src : Option String) (k : K) (ops : List (KOp K V)) (t : Tree K V) (c : Cell V)
    (hpos : ∀ w k, KOp.del w k ∈ ops → 0 < w) (h : Rep (lookup k t) c) :
    Rep (lookup k (runOps src t ops)) (cellRun k c ops) :=
  List.foldl_rel (r := fun t c => Rep (lookup k t) c) h
    fun op hop t c h => step_refines src t k c op (fun w k' e => hpos w k' (e ▸ hop)) h

/-- C17, history level: from the empty tree, `Get` answers what the specification answers, for
    every key and every history -/
theorem get_refines_spec (src : Option String) (ops : List (KOp K V))
    (hpos : ∀ w k, KOp.del w k ∈ ops → 0 < w) (k : K) :
    readGet (runOps src ([] : Tree K V) ops) k = (cellRun k Cell.absent ops).read :=
  rep_read _ k _ (run_refines src k ops [] .absent hpos trivial)

theorem cellRun_dead (k : K) (ops : List (KOp K V)) : cellRun k (Cell.dead : Cell V) ops = .dead :=
  List.foldlRecOn ops _ (motive := (· = Cell.dead)) rfl fun _ hc op _ => by
    subst hc; cases op <;> simp [cellStep]

/-- sticky deletes over whole histories: once a `Tombstone` of `k` occurs, `Get k` is absent
    after ANY continuation (any number of later `Set`s at any later or earlier time) -/
theorem tombstone_is_forever (src : Option String) (pre post : List (KOp K V)) (w : Int) (k : K)
    (hpos : ∀ op ∈ pre ++ KOp.del w k :: post, 0 < op.time) :
    readGet (runOps src ([] : Tree K V) (pre ++ KOp.del w k :: post)) k = none := by
  rw [get_refines_spec src _ (fun _ _ h => hpos _ h) k, cellRun, List.foldl_append, List.foldl_cons,
    show cellStep k _ (KOp.del w k) = Cell.dead from if_pos rfl]
  exact congrArg Cell.read (cellRun_dead k post)

/-- a live cell's time never decreases along a history without tombstones of `k` -/
theorem live_time_monotone (k : K) (ops : List (KOp K V)) :
    ∀ (w0 : Int) (v0 : V), (∀ op ∈ ops, ∀ w, op ≠ KOp.del w k) →
      ∃ w v, cellRun k (Cell.live w0 v0) ops = .live w v ∧ w0 ≤ w := by
  intro w0 v0 hnd
  refine List.foldlRecOn ops _ (motive := fun c => ∃ w v, c = Cell.live w v ∧ w0 ≤ w)
    ⟨w0, v0, rfl, Int.le_refl _⟩ ?_
  rintro _ ⟨w1, v1, rfl, hle⟩ op hop
  cases op with
  | set w k' v =>
    simp only [cellStep]
    split
    · split
      · exact ⟨w, v, rfl, Int.le_trans hle ‹_›⟩
      · exact ⟨w1, v1, rfl, hle⟩
    · exact ⟨w1, v1, rfl, hle⟩
  | del w k' =>
    have hk : k' ≠ k := fun he => hnd _ hop w (he ▸ rfl)
    exact ⟨w1, v1, if_neg hk, hle⟩

/-- last write wins over whole histories: a `Set` that is not older than anything the key holds
    is what `Get` returns as long as only strictly older `Set`s (and calls on other keys) follow -/
theorem latest_set_is_read (src : Option String) (pre post : List (KOp K V)) (w : Int) (k : K) (v : V)
    (hpos : ∀ op ∈ pre ++ KOp.set w k v :: post, 0 < op.time)
    (hpre : ∀ w0 v0, cellRun k (Cell.absent : Cell V) pre = .live w0 v0 → w0 ≤ w)
    (hpre' : cellRun k (Cell.absent : Cell V) pre ≠ .dead)
    (hpost : ∀ op ∈ post, op.key = k → ∃ w' v', op = KOp.set w' k v' ∧ w' < w) :
    readGet (runOps src ([] : Tree K V) (pre ++ KOp.set w k v :: post)) k = some (w, v) := by
  rw [get_refines_spec src _ (fun _ _ h => hpos _ h) k, cellRun, List.foldl_append, List.foldl_cons]
  have h1 : cellStep k (cellRun k (Cell.absent : Cell V) pre) (KOp.set w k v) = .live w v := by
    cases hc : cellRun k (Cell.absent : Cell V) pre with
    | absent => simp [cellStep]
    | live w0 v0 => simp [cellStep, hpre w0 v0 hc]
    | dead => exact absurd hc hpre'
  rw [show List.foldl (cellStep k) Cell.absent pre = cellRun k Cell.absent pre from rfl, h1]
  -- what follows leaves `live w v` alone
  refine congrArg Cell.read (List.foldlRecOn post _ (motive := (· = Cell.live w v)) rfl ?_)
  rintro _ rfl op hop
  by_cases hk : op.key = k
  · obtain ⟨w', v', rfl, hlt⟩ := hpost op hop hk
    have : ¬ w ≤ w' := by omega
    simp [cellStep, this]
  · exact cellStep_other _ hk

example :
    let ops : List (KOp Nat Nat) :=
      [.set 5 1 10, .set 3 1 11, .set 5 1 12, .del 9 2, .set 20 2 7, .set 4 3 1, .del 2 3, .set 8 3 2]
    readGet (runOps (some "v0") [] ops) 1 = some (5, 12) ∧
    readGet (runOps (some "v0") [] ops) 2 = none ∧
    readGet (runOps (some "v0") [] ops) 3 = none ∧
    (cellRun 1 Cell.absent ops).read = some (5, 12) ∧
    (∀ op ∈ ops, 0 < op.time) := by decide

end S3db.Props.C17Hist
