import S3db.Props.C09
import S3db.Props.C02
/-!
# C10 — vacuum reclaims exactly what the cutoff allows
-/
namespace S3db.Props.C10
open S3db S3db.AList S3db.Row S3db.Table S3db.Vacuum S3db.Props.C09 S3db.Props.C01

set_option linter.unusedSectionVars false
variable {K V : Type} [DecidableEq K]

/-- **purged_iff**: after vacuum a key occupies the table iff it did before and it is not a
    delete marker older than the cutoff -/
theorem purged_iff (cutoff : Int) (t : Table K V) (ht : NodupKeys t) (k : K) :
    lookup k (vacuumRows F cutoff t) =
      match lookup k t with
      | some e => if e.row.deleted = true ∧ e.row.dut < cutoff then none else some e
      | none => none :=
  lookup_vacuumRows cutoff t ht k

/-- **marker_kept**: a row deleted at or after the cutoff keeps its delete marker, unchanged -/
theorem marker_kept (cutoff : Int) (t : Table K V) (ht : NodupKeys t) (k : K) (e : SEntry V)
    (hl : lookup k t = some e) (hc : cutoff ≤ e.row.dut) :
    lookup k (vacuumRows F cutoff t) = some e :=
  lookup_vacuumRows_kept cutoff t ht k e hl (.inr hc)

/-- … so the delete still wins over any write that is older than it and is merged later:
    merging a row whose status is older leaves the kept marker's status in place -/
theorem late_older_write_loses (marker older : ARow V) (hm : marker.deleted = true)
    (hold : older.dut < marker.dut) :
    (mergeRows marker older).deleted = true ∧ (mergeRows older marker).deleted = true ∧
    (mergeRows marker older).dut = marker.dut ∧ (mergeRows older marker).dut = marker.dut := by
  have c1 : marker.dut > older.dut := hold
  have c2 : ¬ older.dut > marker.dut := by omega
  simp only [mergeRows_deleted, mergeRows_dut, if_pos c1, if_neg c2, hm, and_self]

theorem nodup_vacuumRows (cutoff : Int) (t : Table K V) (ht : NodupKeys t) : NodupKeys (vacuumRows F cutoff t) :=
  nodupKeys_filter _ ht

/-- a later vacuum with an older cutoff purges nothing more -/
theorem vacuum_monotone (c1 c2 : Int) (h : c1 ≤ c2) (t : Table K V) :
    vacuumRows F c1 (vacuumRows F c2 t) = vacuumRows F c2 t := by
  rw [vacuumRows_eq c1, vacuumRows_eq c2]
  -- what the later cutoff kept is no marker older than the earlier one
  refine List.filter_eq_self.2 fun p hp => ?_
  have hk := (List.mem_filter.1 hp).2
  cases hd : p.2.row.deleted <;> simp only [hd, Bool.true_and, Bool.false_and, Bool.not_false,
    Bool.not_eq_true', decide_eq_false_iff_not] at hk ⊢
  omega

/-- **vacuum_idem**: repeating the same vacuum changes nothing -/
theorem vacuum_idem (cutoff : Int) (t : Table K V) :
    vacuumRows F cutoff (vacuumRows F cutoff t) = vacuumRows F cutoff t :=
  vacuum_monotone cutoff cutoff (Int.le_refl _) t

/-- only what no kept version needs is deleted: a deleted node is a candidate and is reached by
    no kept version -/
theorem only_unneeded_nodes_gone (s : Store) (candidates : List Hash) (kept : List Nat) (h : Hash)
    (hd : h ∈ deleteSet F s candidates kept) :
    h ∈ candidates ∧ ∀ v, v ∈ kept → h ∉ s.reach v :=
  mem_deleteSet.1 hd

/-- the comparisons, as read from the source on this run: a marker whose time equals the cutoff
    is kept (strictly-before), a kv tombstone is kept iff its time is >= the cutoff, a version is
    superseded unless one of its children was created after the cutoff -/
theorem cutoff_facts :
    F.rowCutoff = "row.Deleted && rowTime.Add(row.DeleteUpdateOffset.AsDuration()).Before(beforeTime)" ∧
    F.tombCutoff = "ts == 0 || ts >= cutoff" ∧
    F.versionCutoff = "childRoot.Created == nil || childRoot.Created.After(olderThan)" ∧
    F.purgeCutoffClamped = true :=
  ⟨rfl, rfl, rfl, rfl⟩

/-- the boundary, on the model: cutoff 5 purges the marker of time 4 and keeps the one of time 5 -/
example :
    let d (t : Int) : SEntry Nat := { mod := t, row := { deleted := true, dut := t, cols := [] } }
    (vacuumRows F 5 ([(1, d 4), (2, d 5)] : Table Nat Nat)).map (·.1) = [2] := by
  simp only [vacuumRows_eq]
  decide

/-! ### where C10 and C02 pull in opposite directions (finding F78)

A DELETE is sticky: an UPDATE with a later write time that meets a deleted row leaves it absent,
but its column write stays in the marker, hidden, and a later INSERT loses that column against it
(C02: "the statement with the greatest write time among the statements since that INSERT").  A
vacuum whose cutoff lies between the delete and the hidden write purges the marker (C10: "rows
deleted before the cutoff no longer occupy the table") and the hidden write with it.  The two
theorems below run the same four statements on the model, with and without the vacuum. -/

private def ins (t : Table Nat String) (w : Int) (a b : String) : Table Nat String :=
  match insertRow t w 1 [("a", a), ("b", b)] with
  | .ok t' => t'
  | .error _ => t

private def hist (vac : Bool) : Table Nat String :=
  let t := ins [] 1 "a1" "b1"
  let t := updateRow t 10 1 [("b", "b10")]
  let t := deleteRow t 2 1
  let t := if vac then vacuumRows F 3 t else t
  ins t 4 "a4" "b4"

private def colB (t : Table Nat String) : Option String :=
  (visibleRow t 1).bind fun cols => (lookup "b" cols).map (·.v)

/-- without the vacuum the re-inserted row keeps the later write to `b` -/
theorem without_vacuum_later_write_wins : colB (hist false) = some "b10" := by decide

/-- with a vacuum at 3 — after the delete (2), before the hidden write (10) — the same statements
    give another table: C02 asks for `b10`, C10 for the marker to be gone at cutoff 3 -/
theorem vacuum_between_delete_and_hidden_write_changes_resolution :
    colB (hist true) = some "b4" := by
  simp only [hist, vacuumRows_eq]
  decide

end S3db.Props.C10
