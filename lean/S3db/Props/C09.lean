import S3db.Lemmas.DelOrder
import S3db.Model.Vacuum
import S3db.Gen.Facts
/-!
# C09 — vacuum never changes what the table contains
-/
namespace S3db.Props.C09
open S3db S3db.AList S3db.Row S3db.Table S3db.Vacuum

abbrev F : Facts := S3db.Gen.facts

variable {K V : Type} [DecidableEq K]

/-- the reading of `rowCutoff` on this run; rewriting with it first keeps evaluation (`decide`)
    from comparing source texts character by character -/
theorem rowPurged_eq (deleted : Bool) (dut cutoff : Int) :
    rowPurged F deleted dut cutoff = some (deleted && decide (dut < cutoff)) :=
  if_pos rfl

omit [DecidableEq K] in
theorem vacuumRows_eq (cutoff : Int) (t : Table K V) :
    vacuumRows F cutoff t = t.filter fun p => !(p.2.row.deleted && decide (p.2.row.dut < cutoff)) := by
  simp only [vacuumRows, rowPurged_eq, Option.getD_some]

theorem lookup_vacuumRows (cutoff : Int) (t : Table K V) (ht : NodupKeys t) (k : K) :
    lookup k (vacuumRows F cutoff t) =
      match lookup k t with
      | some e => if e.row.deleted = true ∧ e.row.dut < cutoff then none else some e
      | none => none := by
  rw [vacuumRows_eq, lookup_filter _ ht]
  cases lookup k t with
  | none => rfl
  | some e => by_cases hd : e.row.deleted = true <;> by_cases hc : e.row.dut < cutoff <;> simp [hd, hc]

theorem lookup_vacuumRows_kept (cutoff : Int) (t : Table K V) (ht : NodupKeys t) (k : K) (e : SEntry V)
    (hl : lookup k t = some e) (h : e.row.deleted = false ∨ cutoff ≤ e.row.dut) :
    lookup k (vacuumRows F cutoff t) = some e := by
  rw [lookup_vacuumRows cutoff t ht, hl]
  exact if_neg fun hp => h.elim (by simp [hp.1]) (Int.not_le.2 hp.2)

/-- **the visible rows are untouched**, for every cutoff: only delete markers are removed -/
theorem vacuum_rows_unchanged (cutoff : Int) (t : Table K V) (ht : NodupKeys t) (k : K) :
    visibleRow (vacuumRows F cutoff t) k = visibleRow t k := by
  unfold visibleRow
  rw [lookup_vacuumRows cutoff t ht]
  cases lookup k t with
  | none => rfl
  | some e =>
    by_cases hp : e.row.deleted = true ∧ e.row.dut < cutoff
    · simp [hp, visible]   -- purged: it was a marker, which shows nothing
    · simp only [if_neg hp]

/-- a live row's entry is kept exactly as it is (values, times, everything) -/
theorem vacuum_keeps_live_entries (cutoff : Int) (t : Table K V) (ht : NodupKeys t) (k : K) (e : SEntry V)
    (hl : lookup k t = some e) (hlive : e.row.deleted = false) :
    lookup k (vacuumRows F cutoff t) = some e :=
  lookup_vacuumRows_kept cutoff t ht k e hl (.inl hlive)

theorem mem_deleteSet {s : Store} {candidates : List Hash} {kept : List Nat} {h : Hash} :
    h ∈ deleteSet F s candidates kept ↔ h ∈ candidates ∧ ∀ v, v ∈ kept → h ∉ s.reach v := by
  have hF : F.vacuumKeepsReachable = true := rfl
  simp [deleteSet, hF]

theorem complete_afterDeletes {s : Store} {v : Nat} (hc : Complete s v) {dels : List Hash}
    (hd : ∀ h, h ∈ dels → h ∉ s.reach v) : Complete (afterDeletes s dels) v := fun h hh =>
  List.mem_filter.2 ⟨hc h hh, by simpa using fun hm => hd h hm hh⟩

/-- any part of the delete set, not only a prefix of it -/
theorem kept_complete_after_any_deletes {s : Store} {candidates : List Hash} {kept : List Nat} {v : Nat}
    (hv : v ∈ kept) (hc : Complete s v) {dels : List Hash}
    (hsub : ∀ h, h ∈ dels → h ∈ deleteSet F s candidates kept) : Complete (afterDeletes s dels) v :=
  complete_afterDeletes hc fun h hm => (mem_deleteSet.1 (hsub h hm)).2 v hv

/-- **no retained version ever refers to a deleted object**: whatever the candidate set (even if
    the link diff over-reports), at every crash point inside the deletion loop, every version
    that is kept — the current one above all — still has all of its nodes -/
theorem vacuum_safe (s : Store) (candidates : List Hash) (kept : List Nat) (v : Nat) (hv : v ∈ kept)
    (hc : Complete s v) (k : Nat) :
    Complete (afterDeletes s ((deleteSet F s candidates kept).take k)) v :=
  kept_complete_after_any_deletes hv hc fun _ => List.mem_of_mem_take

/-- without the keep pass (the code before the F11 fix) vacuum is unsafe even with an exact link
    diff: version 0 and version 2 have the same content (insert, then delete again), the diff
    0 → 1 reports node 7 as no longer used by 1, and deleting it breaks the current version 2 -/
theorem without_keep_pass_vacuum_breaks_current :
    let F0 : Facts := { F with vacuumKeepsReachable := false }
    let s : Store := { nodes := [7, 8], reach := fun v => if v = 1 then [8] else [7] }
    ¬ Complete (afterDeletes s (deleteSet F0 s [7] [2])) 2 := by
  unfold Complete
  decide

theorem mem_delist {l : Listing} {historic : List Nat} {v : Nat} :
    v ∈ (delist F l historic).current ++ (delist F l historic).merged ↔
      v ∈ l.current ++ l.merged ∧ v ∉ historic := by
  have hF : F.vacuumFinishesRetire = true := rfl
  simp [delist, hF, or_and_right]

/-- **no listed version is left referring to a deleted object**: the historic versions are
    delisted from root/current/ *before* any node is deleted and from root/merged/ afterwards, so
    at every crash point inside the node deletions every version still listed as current — and,
    once vacuum is through, every version listed anywhere — has all of its nodes.  (Every listed
    version is historic or kept: `hl`.) -/
theorem vacuum_leaves_no_listed_version_dangling (s : Store) (l : Listing) (candidates : List Hash)
    (historic kept : List Nat)
    (hl : ∀ v, v ∈ l.current ++ l.merged → v ∈ historic ∨ v ∈ kept)
    (hc : ∀ v, v ∈ l.current ++ l.merged → Complete s v) (k : Nat) :
    (∀ v, v ∈ (delist F l historic).current →
      Complete (afterDeletes s ((deleteSet F s candidates kept).take k)) v) ∧
    (∀ v, v ∈ (delist F l historic).current ++ (delist F l historic).merged →
      Complete (afterDeletes s (deleteSet F s candidates kept)) v) := by
  have key : ∀ v, v ∈ (delist F l historic).current ++ (delist F l historic).merged →
      ∀ dels, (∀ h, h ∈ dels → h ∈ deleteSet F s candidates kept) → Complete (afterDeletes s dels) v := by
    intro v hv
    obtain ⟨hm, hn⟩ := mem_delist.1 hv
    exact fun _ => kept_complete_after_any_deletes ((hl v hm).resolve_left hn) (hc v hm)
  exact ⟨fun v hv => key v (List.mem_append_left _ hv) _ fun _ => List.mem_of_mem_take,
    fun v hv => key v hv _ fun _ h => h⟩

/-- without the retire-finishing pass (the code before the F38 fix): version 1 was superseded by
    version 2 but its retirement failed, so it is still listed as current; vacuum treats it as
    historic, deletes node 7 that only it uses, and leaves it listed -/
theorem without_retire_pass_current_dangles :
    let F0 : Facts := { F with vacuumFinishesRetire := false }
    let s : Store := { nodes := [7, 8], reach := fun v => if v = 1 then [7] else [8] }
    let l : Listing := { current := [1, 2], merged := [] }
    1 ∈ (delist F0 l [1]).current ∧ ¬ Complete (afterDeletes s (deleteSet F0 s [7] [2])) 1 := by
  unfold Complete
  decide

/-- the premises of `vacuum_leaves_no_listed_version_dangling` are satisfiable -/
example : let l : Listing := { current := [1, 2], merged := [0] }
    (∀ v, v ∈ l.current ++ l.merged → v ∈ [0, 1] ∨ v ∈ [2]) := by decide

theorem deletionOrder_eq (g : VGraph) (chosen : List Nat) :
    deletionOrder F g chosen = (chosen.foldl (visitFirst g chosen g.versions.length) []).reverse :=
  if_pos rfl

/-- **the source's deletion order is closed wherever it is cut**: for every version graph without
    cycles (`rank`: a version's parents rank below it; names are hashes of contents that include
    the parents' names) and every set of chosen versions, the depth-first order `deletionOrder`
    (fact `vacuumDeletesSupersededFirst`) has deleted, at every point of the loop, all chosen
    versions superseded by anything it has deleted -/
theorem deletion_order_prefix_closed (g : VGraph) (chosen : List Nat) (rank : Nat → Nat)
    (hrank : ∀ c p, p ∈ g.parents c → rank p < rank c)
    (hfuel : ∀ v, v ∈ chosen → rank v ≤ g.versions.length) :
    PrefixClosed g chosen (deletionOrder F g chosen) := by
  rw [deletionOrder_eq]
  exact prefixClosed_of_good <| List.foldlRecOn chosen _ trivial fun acc hacc v hv =>
    visitFirst_good rank hrank _ acc v (hfuel v hv) hacc

/-- … and it deletes chosen versions only -/
theorem deletion_order_sub (g : VGraph) (chosen : List Nat) :
    ∀ v, v ∈ deletionOrder F g chosen → v ∈ chosen := by
  simp only [deletionOrder_eq, List.mem_reverse]
  exact List.foldlRecOn chosen _ nofun fun acc hacc v hv =>
    visitFirst_keeps (P := (∀ x, x ∈ · → x ∈ chosen))
      (fun _ _ hv hl => List.forall_mem_cons.2 ⟨hv, hl⟩) _ acc v hv hacc

/-- **whatever is still there can still be found**: if the deletion order is closed wherever it is
    cut and the chosen versions are closed under "supersedes" (they are whenever creation times
    grow along the history), then after a crash at ANY point of the deletion loop (`done` deleted,
    `todo` not yet), a walk back from anywhere to a version object that still exists meets no
    deleted version — the next vacuum, walking back from the current version, reaches every chosen
    version that is left -/
theorem interrupted_delete_keeps_rest_reachable (g : VGraph) (chosen order done todo : List Nat)
    (hsplit : order = done ++ todo)
    (hord : PrefixClosed g chosen order) (hsub : ∀ v, v ∈ order → v ∈ chosen)
    (hclosed : ∀ c, c ∈ chosen → ∀ p, p ∈ g.parents c → p ∈ chosen)
    (walk : List Nat) (hw : Walk g walk) (v : Nat) (hlast : walk.getLast? = some v)
    (hv : v ∉ done) : ∀ u, u ∈ walk → u ∉ done := by
  fun_induction Walk g walk with
  | case1 => exact nofun
  | case2 a =>
    cases hlast
    exact fun u hu => List.mem_singleton.1 hu ▸ hv
  | case3 a b rest ih =>
    have ih' := ih hw.2 (by simpa [List.getLast?_cons_cons] using hlast)
    -- were `a` deleted, so would be `b`, which it supersedes
    refine List.forall_mem_cons.2 ⟨fun hdel => ?_, ih'⟩
    have hbc := hclosed a (hsub a (hsplit ▸ List.mem_append_left _ hdel)) b hw.1
    exact ih' b List.mem_cons_self (hord done todo hsplit a hdel b hw.1 hbc)

/-- the two together, for the order the source uses -/
theorem interrupted_vacuum_leaves_rest_reachable (g : VGraph) (chosen done todo : List Nat)
    (rank : Nat → Nat) (hrank : ∀ c p, p ∈ g.parents c → rank p < rank c)
    (hfuel : ∀ v, v ∈ chosen → rank v ≤ g.versions.length)
    (hsplit : deletionOrder F g chosen = done ++ todo)
    (hclosed : ∀ c, c ∈ chosen → ∀ p, p ∈ g.parents c → p ∈ chosen)
    (walk : List Nat) (hw : Walk g walk) (v : Nat) (hlast : walk.getLast? = some v)
    (hv : v ∉ done) : ∀ u, u ∈ walk → u ∉ done :=
  interrupted_delete_keeps_rest_reachable g chosen _ done todo hsplit
    (deletion_order_prefix_closed g chosen rank hrank hfuel) (deletion_order_sub g chosen) hclosed walk hw v hlast hv

/-- the source's order on a history with a fork and a merge: 0 ← 1 ← {2, 3} ← 4 (4 merges 2 and 3),
    all four old versions chosen, given in the worst order — emitted oldest first (non-vacuity:
    `rank := id` and fuel 5 meet the hypotheses above) -/
example :
    let g : VGraph := { versions := [0, 1, 2, 3, 4], created := fun _ => 0,
                        parents := fun c => if c = 4 then [2, 3] else if c = 3 then [1] else if c = 2 then [1] else if c = 1 then [0] else [] }
    deletionOrder F g [3, 2, 1, 0] = [0, 1, 3, 2] := by decide

/-- the order the versions came in is not closed: cut after one deletion it has removed 3 and
    left 1 and 0, which 3 superseded, behind it (F93 on the model without the rule) -/
theorem map_order_is_not_prefix_closed :
    let g : VGraph := { versions := [0, 1, 2, 3, 4], created := fun _ => 0,
                        parents := fun c => if c = 4 then [2, 3] else if c = 3 then [1] else if c = 2 then [1] else if c = 1 then [0] else [] }
    ¬ PrefixClosed g [3, 2, 1, 0] (deletionOrder { F with vacuumDeletesSupersededFirst := false } g [3, 2, 1, 0]) := by
  intro g h
  exact absurd (h [3] [2, 1, 0] rfl 3 (by decide) 1 (by decide) (by decide)) (by decide)

theorem deletion_order_facts : F.vacuumDeletesSupersededFirst = true := rfl

/-- the reading of `versionCutoff` on this run, for any facts that carry the same text -/
theorem tooNew_eq {F' : Facts} (hF : F'.versionCutoff = F.versionCutoff) (created cutoff : Int) :
    tooNew F' created cutoff = some (decide (created > cutoff)) := by
  rw [tooNew, hF]
  exact if_pos rfl

/-- **a version created at or after the cutoff is never removed**, whatever the shape of the
    history (forks, merges, several writers) and whatever times its successors carry — a
    successor may well be dated before the version it supersedes (the merge version of an open is
    dated before the listing it merges; clocks differ): the version's own creation time is
    checked (`vacuumChecksOwnAge`, F70) -/
theorem created_at_or_after_cutoff_retained (g : VGraph) (cutoff : Int) (v : Nat)
    (hv : cutoff ≤ g.created v) : removed F g cutoff v = false := by
  have hF : F.vacuumChecksOwnAge = true := rfl
  simp [removed, hF, hv]

/-- without the check on the version's own age the guarantee needs creation times that grow
    along every edge, which they do not always: version 2 (created at 7, after the cutoff 5) is
    superseded by the merge version 3 that an open dated 4, before its listing -/
example :
    let F0 : Facts := { F with vacuumChecksOwnAge := false }
    let g : VGraph := { versions := [1, 2, 3], parents := fun c => if c = 3 then [2] else if c = 2 then [1] else [],
                        created := fun v => if v = 2 then 7 else if v = 3 then 4 else 1 }
    removed F0 g 5 2 = true := by
  intro F0 g
  simp only [removed, tooNew_eq (F' := F0) rfl]
  decide

/-- the current version — any version without a successor — is never removed -/
theorem childless_version_retained (g : VGraph) (cutoff : Int) (v : Nat)
    (h : g.children v = []) : removed F g cutoff v = false := by
  simp [removed, h]

/-- with the connection's open time as creation time (F52) the guarantee fails: versions 1 and 2
    were committed by one connection opened at time 0, version 2 at (real) time 7 after the cutoff 5
    — both carry time 0, and version 1's only child is "older than the cutoff" -/
example :
    let g : VGraph := { versions := [1, 2, 3], parents := fun c => if c = 3 then [2] else if c = 2 then [1] else [],
                        created := fun _ => 0 }
    removed F g 5 2 = true := by
  intro g
  simp only [removed, tooNew_eq (F' := F) rfl]
  decide

theorem vacuum_facts :
    F.vacuumKeepsReachable = true ∧ F.vacuumRefusesDirty = true ∧ F.vacuumFinishesRetire = true ∧
    F.vacuumKeepsListedCurrent = true ∧ F.vacuumWalksBypassCache = true ∧ F.versionsDatedAtCommit = true ∧ F.vacuumChecksOwnAge = true ∧
    F.vacuumSkipsUnreadableListed = true ∧ F.vacuumRepointsSnapshot = true ∧ F.deletedNodesLeaveCache = true ∧
    F.vacuumOrder = ["removeTombstones", "commit", "deleteHistoric"] ∧
    F.deleteOrder = ["current aws.String(s.root.Prefix + l)",
      "nodes aws.String(s.persist.(*persistEncryptor).Prefix + l)",
      "roots aws.String(s.merged.Prefix + l)"] ∧
    F.rowCutoff = "row.Deleted && rowTime.Add(row.DeleteUpdateOffset.AsDuration()).Before(beforeTime)" :=
  ⟨rfl, rfl, rfl, rfl, rfl, rfl, rfl, rfl, rfl, rfl, rfl, rfl, rfl⟩

end S3db.Props.C09
