import S3db.Model.CommitRetry
import S3db.Gen.Facts
/-!
# C04 (continued) — acknowledged means stored, also for a `Commit` retried after a failure

Property theorems about the handle-state model in `Model/CommitRetry.lean`; the two fields it
relies on are tied to kv/kv.go by the fact `commitRemembersFailure` (`C04.ack_facts`).
-/
namespace S3db.Props.C04Retry
open S3db S3db.CommitRetry

abbrev F : Facts := S3db.Gen.facts

/-- `run` and `trun` are one recursion over their step functions (`hnil`, `hcons` hold by `rfl`):
    what every step keeps of the state (`P`) and guarantees of its output (`Q`), every history does -/
theorem run_induction {σ ε ω : Type} (step : σ → ε → σ × ω) (run : σ → List ε → σ × List ω)
    (hnil : ∀ s, run s [] = (s, []))
    (hcons : ∀ s e es, run s (e :: es) = ((run (step s e).1 es).1, (step s e).2 :: (run (step s e).1 es).2))
    {P : σ → Prop} {Q : ω → Prop} (hstep : ∀ s e, P s → P (step s e).1 ∧ Q (step s e).2) :
    ∀ es s, P s → P (run s es).1 ∧ ∀ o ∈ (run s es).2, Q o
  | [], s, hs => by rw [hnil]; exact ⟨hs, nofun⟩
  | e :: es, s, hs => by
    rw [hcons]
    have ⟨h1, h2⟩ := hstep s e hs
    have ⟨h3, h4⟩ := run_induction step run hnil hcons hstep es _ h1
    exact ⟨h3, List.forall_mem_cons.2 ⟨h2, h4⟩⟩

instance (h : H) : Decidable (HInv h) := by unfold HInv; infer_instance
instance (t : T) : Decidable (TInv t) := by unfold TInv; infer_instance

theorem commit_step (h : H) (e : Ev) (hi : HInv h) :
    HInv (step F h e).1 ∧ ((step F h e).2 = .ack → (step F h e).1.pending = false) := by
  -- a finite table: 16 states, 5 calls.  The invariant is needed at the shortcut only: a handle
  -- that is not poisoned and does not look dirty has nothing pending
  obtain ⟨pending, clean, unstored, poisoned⟩ := h
  cases e <;> decide +revert

theorem commit_step_inv (h : H) (e : Ev) (hi : HInv h) : HInv (step F h e).1 :=
  (commit_step h e hi).1

/-- **an acknowledged `Commit` leaves nothing pending**, whatever failed before it: either this
    very call stored the version, or there was nothing to store -/
theorem ack_means_nothing_pending (h : H) (flushOK putOK : Bool) (hi : HInv h)
    (hack : (step F h (.commit flushOK putOK)).2 = .ack) :
    (step F h (.commit flushOK putOK)).1.pending = false :=
  (commit_step h _ hi).2 hack

/-- … along every history of a handle (every reachable state satisfies the invariant) -/
theorem commit_run_inv (es : List Ev) (h : H) (hi : HInv h) : HInv (run F h es).1 :=
  (run_induction (step F) (run F) (Q := fun _ => True) (fun _ => rfl) (fun _ _ _ => rfl)
    (fun h e hi => ⟨commit_step_inv h e hi, trivial⟩) es h hi).1

/-- the defect F39, on the model without the two fields: Set; Commit (flush fails); Commit —
    the retry is acknowledged with the change still pending -/
theorem without_memory_retry_acks_unstored :
    let F0 : Facts := { F with commitRemembersFailure := false }
    run F0 {} [.set, .commit false true, .commit true true] =
      ({ pending := true, clean := true, unstored := false, poisoned := true }, [.na, .err, .ack]) := by
  decide

/-- the same history on the current source: the retry is refused -/
example : (run F {} [.set, .commit false true, .commit true true]).2 = [.na, .err, .err] := by decide
/-- … and after a failed version PUT the retry stores the version -/
example : run F {} [.set, .commit true false, .commit true true] = ({}, [.na, .err, .ack]) := by decide

theorem table_step (t : T) (e : TEv) (hi : TInv t) :
    TInv (tstep F t e).1 ∧ (tstep F t e).2 ≠ .ackDangling := by
  -- 16 states, 11 callbacks.  The invariant is needed where a COMMIT or a VACUUM is acknowledged:
  -- the tree it stores is that of an open, unpoisoned transaction, or no commit has failed before
  obtain ⟨tainted, commitFailed, inTx, poisoned⟩ := t
  cases e <;> decide +revert

theorem table_step_inv (t : T) (e : TEv) (hi : TInv t) : TInv (tstep F t e).1 :=
  (table_step t e hi).1

theorem table_run (es : List TEv) (t : T) (hi : TInv t) :
    TInv (trun F t es).1 ∧ ∀ o ∈ (trun F t es).2, o ≠ .ackDangling :=
  run_induction (tstep F) (trun F) (fun _ => rfl) (fun _ _ _ => rfl) table_step es t hi

theorem table_run_inv (es : List TEv) (t : T) (hi : TInv t) : TInv (trun F t es).1 :=
  (table_run es t hi).1

/-- **no acknowledged COMMIT publishes a version with a link to a node that was never stored**,
    whatever failed on the connection before and however often -/
theorem no_dangling_ack (es : List TEv) (t : T) (hi : TInv t) : .ackDangling ∉ (trun F t es).2 :=
  fun hm => (table_run es t hi).2 _ hm rfl

/-- the defect F76 on the model without the field: a COMMIT whose flush fails, SQLite's rollback,
    and the next transaction's COMMIT is acknowledged with a dangling link -/
theorem without_reopen_next_commit_dangles :
    let F0 : Facts := { F with failedCommitReopens := false }
    (trun F0 {} [.begin true, .commit false true, .rollback, .begin true, .commit true true]).2 =
      [.ok, .err, .ok, .ok, .ackDangling] := by
  decide

/-- the defect F94 on the model that forgets a failed vacuum commit: the next transaction's COMMIT
    is acknowledged from the tainted tree -/
theorem without_vacuum_memory_next_commit_dangles :
    let F0 : Facts := { F with vacuumRemembersFailedCommit := false }
    (trun F0 {} [.vacuum true false, .begin true, .commit true true]).2 = [.err, .ok, .ackDangling] ∧
    (trun F {} [.vacuum true false, .begin true, .commit true true]).2 = [.err, .ok, .ack] := by
  decide

/-- the same history on the current source: the second transaction starts from the bucket -/
example : (trun F {} [.begin true, .commit false true, .rollback, .begin true, .commit true true]).2 =
    [.ok, .err, .ok, .ok, .ack] := by decide
/-- … and while the bucket is still unreachable the transaction is refused, not started on the tainted tree -/
example : (trun F {} [.begin true, .commit false true, .rollback, .begin false, .begin true, .commit true true]).2 =
    [.ok, .err, .ok, .err, .ok, .ack] := by decide
example : TInv {} := by decide

end S3db.Props.C04Retry
