import S3db.Model.Txn
import S3db.Gen.Facts
/-!
# C05, history level — any sequence of transactions publishes exactly the committed ones

`Props/C05.lean` states atomicity for one transaction.  Here it is lifted to **every history** of
the table-side callbacks SQLite issues (`xBegin`, statements, `xSync/xCommit` that succeed or
fail, `xRollback`), of any length: the rows a connection sees outside a transaction, and the rows
it has published, are those of an abstract machine that keeps one committed table and at most one
pending copy — i.e. the effects of exactly the transactions whose COMMIT was acknowledged, in
order, and nothing of the others.  The decision points (`Begin` clones, `Rollback` restores, a
failed `Commit` keeps the snapshot) are the generated facts.
-/
namespace S3db.Props.C05Hist
open S3db S3db.AList S3db.Table S3db.Txn

abbrev F : Facts := S3db.Gen.facts

variable {K V : Type}

/-- what SQLite asks of the table; a statement is any function on the table's contents -/
inductive Ev (K V : Type) where
  | begin
  | stmt (f : Table K V → Table K V)
  | commit (ok : Bool)
  | rollback

/-- implementation side: the `Tx` of `Model/Txn.lean` plus what has reached the bucket -/
structure St (K V : Type) where
  tx : Tx K V
  pub : Table K V

def stepEv (s : St K V) : Ev K V → St K V
  | .begin => match s.tx.begin F with
    | some t => { s with tx := t }
    | none => s
  | .stmt f => { s with tx := { s.tx with live := f s.tx.live } }
  | .commit ok => { tx := s.tx.commit F ok, pub := if ok then s.tx.live else s.pub }
  | .rollback => { s with tx := s.tx.rollback F }

def runEv (s : St K V) (evs : List (Ev K V)) : St K V := evs.foldl stepEv s

/-- specification: one committed table, at most one pending copy -/
structure Spec (K V : Type) where
  committed : Table K V
  pending : Option (Table K V) := none

def specStep (a : Spec K V) : Ev K V → Spec K V
  | .begin => match a.pending with
    | none => { a with pending := some a.committed }
    | some _ => a
  | .stmt f => { a with pending := a.pending.map f }
  | .commit ok => match a.pending with
    | some p => if ok then { committed := p, pending := none } else a
    | none => a
  | .rollback => { a with pending := none }

def specRun (a : Spec K V) (evs : List (Ev K V)) : Spec K V := evs.foldl specStep a

/-- SQLite's protocol: statements and commits only inside a transaction (autocommit statements
    are wrapped in `xBegin … xCommit` by SQLite itself) -/
def wfFrom : Bool → List (Ev K V) → Prop
  | _, [] => True
  | false, .begin :: evs => wfFrom true evs
  | true, .begin :: _ => False
  | true, .stmt _ :: evs => wfFrom true evs
  | false, .stmt _ :: _ => False
  | true, .commit true :: evs => wfFrom false evs
  | true, .commit false :: evs => wfFrom true evs
  | false, .commit _ :: _ => False
  | _, .rollback :: evs => wfFrom false evs

/-- the table state that stands for a specification state: the relation between the two sides is
    a function, so refinement is an equation -/
def conc (a : Spec K V) : St K V :=
  { tx := { live := a.pending.getD a.committed, snapshot := a.pending.map fun _ => a.committed },
    pub := a.committed }

/-- one event commutes with `conc`, and the protocol goes on from the specification's state (a
    transaction is open iff a copy is pending); each case computes, the facts of `F` included -/
theorem step_abs (a : Spec K V) (ev : Ev K V) (evs : List (Ev K V))
    (hw : wfFrom a.pending.isSome (ev :: evs)) :
    stepEv (conc a) ev = conc (specStep a ev) ∧ wfFrom (specStep a ev).pending.isSome evs := by
  obtain ⟨c, p⟩ := a
  cases p with
  | none =>
    cases ev with
    | begin => exact ⟨rfl, hw⟩
    | rollback => exact ⟨rfl, hw⟩
    | stmt f => exact hw.elim
    | commit ok => cases ok <;> exact hw.elim
  | some p =>
    cases ev with
    | begin => exact hw.elim
    | stmt f => exact ⟨rfl, hw⟩
    | commit ok => cases ok <;> exact ⟨rfl, hw⟩
    | rollback => exact ⟨rfl, hw⟩

/-- **every history**: the table refines the specification along any protocol-conforming list -/
theorem run_abs (evs : List (Ev K V)) :
    ∀ a : Spec K V, wfFrom a.pending.isSome evs → runEv (conc a) evs = conc (specRun a evs) := by
  induction evs with
  | nil => exact fun _ _ => rfl
  | cons ev evs ih =>
    intro a hw
    obtain ⟨h1, h2⟩ := step_abs a ev evs hw
    exact (congrArg (runEv · evs) h1).trans (ih _ h2)

/-- C05 over histories, from a table opened on contents `t0`: what has been published is the
    specification's committed table, and outside a transaction the connection reads exactly that -/
theorem published_is_committed (t0 : Table K V) (evs : List (Ev K V)) (hw : wfFrom false evs) :
    let s := runEv { tx := { live := t0 }, pub := t0 } evs
    let a := specRun { committed := t0 } evs
    s.pub = a.committed ∧ (a.pending = none → s.tx.live = a.committed ∧ s.tx.snapshot = none) := by
  intro s a
  have hs : s = conc a := run_abs evs { committed := t0 } hw
  rw [hs]
  exact ⟨rfl, fun hn => by simp [conc, hn]⟩

theorem specRun_stmts (c : Table K V) (stmts : List (Table K V → Table K V)) :
    ∀ p : Table K V, specRun ({ committed := c, pending := some p } : Spec K V) (stmts.map .stmt)
      = { committed := c, pending := some (stmts.foldl (fun t f => f t) p) } := by
  induction stmts with
  | nil => exact fun _ => rfl
  | cons f fs ih => exact fun p => ih (f p)

/-- a transaction that ends in ROLLBACK (with or without a failed COMMIT before it) leaves the
    specification — hence the table and the bucket — exactly where BEGIN found it -/
theorem spec_rolled_back_txn_is_noop (c : Table K V) (stmts : List (Table K V → Table K V))
    (failedCommit : Bool) :
    specRun ({ committed := c } : Spec K V)
      (.begin :: stmts.map .stmt ++ (if failedCommit then [.commit false, .rollback] else [.rollback]))
      = { committed := c } := by
  rw [specRun, List.foldl_append]
  -- BEGIN before the statements and the events after them compute
  cases failedCommit <;> exact congrArg (List.foldl specStep · _) (specRun_stmts c stmts c)

/-- a transaction whose COMMIT is acknowledged publishes the composition of its statements applied
    to what was committed before — all of them or (above) none -/
theorem spec_committed_txn_applies_all (c : Table K V) (stmts : List (Table K V → Table K V)) :
    specRun ({ committed := c } : Spec K V) (.begin :: stmts.map .stmt ++ [.commit true])
      = { committed := stmts.foldl (fun t f => f t) c } := by
  rw [specRun, List.foldl_append]
  exact congrArg (List.foldl specStep · _) (specRun_stmts c stmts c)

/-- non-vacuity: a concrete history with a rolled-back, a failed and a committed transaction -/
example :
    let ins (k : Nat) : Table Nat Nat → Table Nat Nat :=
      fun t => insert k { mod := 1, row := { deleted := false, dut := 1, cols := [] } } t
    let evs : List (Ev Nat Nat) :=
      [.begin, .stmt (ins 1), .rollback,
       .begin, .stmt (ins 2), .commit false, .rollback,
       .begin, .stmt (ins 3), .stmt (ins 4), .commit true]
    let s := runEv { tx := { live := [] }, pub := [] } evs
    keys s.pub = [3, 4] ∧ keys s.tx.live = [3, 4] ∧ s.tx.snapshot.isNone = true := by decide

end S3db.Props.C05Hist
