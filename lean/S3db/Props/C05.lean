import S3db.Model.Txn
import S3db.Props.C02
import S3db.Lemmas.ProtoInv
/-!
# C05 — transactions are atomic and isolated: rollback restores, nothing leaks early
-/
namespace S3db.Props.C05
open S3db S3db.AList S3db.Table S3db.Txn S3db.Proto

abbrev F : Facts := S3db.Gen.facts

variable {K V : Type} [DecidableEq K] [DecidableEq V]

/-- **ROLLBACK restores exactly the rows visible before BEGIN**, whatever ran in between -/
theorem rollback_restores (t : Tx K V) (h : t.snapshot = none) (t1 : Tx K V) (hb : t.begin F = some t1)
    (stmts : Table K V → Table K V) :
    (({ t1 with live := stmts t1.live } : Tx K V).rollback F).live = t.live := by
  obtain ⟨live, _⟩ := t
  cases h; cases hb; rfl

/-- a failing commit keeps the snapshot, so the ROLLBACK SQLite then issues restores it too -/
theorem failed_commit_then_rollback_restores (t : Tx K V) (h : t.snapshot = none) (t1 : Tx K V)
    (hb : t.begin F = some t1) (stmts : Table K V → Table K V) :
    ((({ t1 with live := stmts t1.live } : Tx K V).commit F false).rollback F).live = t.live := by
  obtain ⟨live, _⟩ := t
  cases h; cases hb; rfl

/-- **a connection reads its own writes**: right after an accepted INSERT the row is visible -/
theorem reads_own_insert (t t' : Table K V) (when : Int) (k : K) (vals : AList String V)
    (h : insertRow t when k vals = .ok t') : (visibleRow t' k).isSome = true := by
  unfold insertRow at h
  cases hl : lookup k t with
  | none =>
    simp only [hl] at h
    cases h
    simp [visibleRow, lookup_insert, Row.visible]
  | some e =>
    simp only [hl] at h
    split at h
    · cases h
    · next hc =>
      cases h
      -- the row was deleted no later than `when`, so the insert's status wins the merge
      have hd : ¬ e.row.dut > when := by simp at hc; omega
      simp [visibleRow, lookup_insert, Row.visible, Row.mergeRows_deleted, hd]

/-- … and right after a DELETE it is not -/
theorem reads_own_delete (t : Table K V) (when : Int) (k : K) (e : SEntry V)
    (hl : lookup k t = some e) (hnew : e.row.dut ≤ when) : visibleRow (deleteRow t when k) k = none := by
  have hc : ¬ e.row.dut > when := by omega
  simp [deleteRow, hl, visibleRow, lookup_insert, Row.visible, Row.mergeRows_deleted, hc]

/-- **COMMIT publishes one version**: the requests of a commit contain exactly one version PUT,
    preceded by the node flush — other openers see the whole transaction or nothing -/
theorem commit_one_version (n : Vid) (ps : List Vid) :
    (commitReqs F n ps).filter (fun r => match r with | .putCur _ => true | _ => false) = [.putCur n] ∧
    (commitReqs F n ps).take 2 = [.putNodes n, .putCur n] := by
  rw [ProtoInv.commitReqs_eq]
  refine ⟨?_, rfl⟩
  -- a retirement holds no version PUT
  have : ∀ p, (JoinList.retire n p).filter (fun r => match r with | .putCur _ => true | _ => false) = [] :=
    fun p => by unfold JoinList.retire; split <;> rfl
  simp [JoinList.reqs, List.filter_flatMap, this]

/-- **one write time per transaction**: from BEGIN until the transaction ends, and as long as the
    connection does not set the attribute itself, every statement carries the same write time —
    the explicit one if set, else the clock *at BEGIN* — whatever the clock says later -/
theorem one_write_time (c : Conn) (now0 now1 now2 : Int) :
    (c.begin F now0).stmtTime F now1 = (c.begin F now0).stmtTime F now2 ∧
    (c.begin F now0).stmtTime F now1 = c.writeTime.getD now0 := by
  obtain ⟨d, w, f⟩ := c
  cases w <;> exact ⟨rfl, rfl⟩

/-- after the transaction the default returns: statements are stamped with the clock again
    (unless the connection had set the attribute explicitly, which is kept) -/
theorem write_time_released (c : Conn) (hfix : c.txFixed = false) (now0 now : Int) :
    ((c.begin F now0).endTx F).writeTime = c.writeTime ∧ ((c.begin F now0).endTx F).txFixed = false := by
  obtain ⟨d, w, f⟩ := c
  cases hfix; cases w <;> exact ⟨rfl, rfl⟩

/-- **ROLLBACK after a vacuum returns to the vacuumed tree** (F44): a transaction that has
    written to the table without changing it is open (`live = snapshot`), vacuum runs, the
    transaction is rolled back — the connection is on the vacuumed tree, never on the tree from
    before the vacuum, whose storage is gone -/
theorem rollback_after_vacuum (vac : Table K V → Table K V) (t : Table K V) :
    let t1 : Tx K V := { live := t, snapshot := some t }
    ((t1.vacuum F vac).rollback F).live = vac t ∧ ((t1.vacuum F vac).rollback F).snapshot = none :=
  ⟨rfl, rfl⟩

/-- without the repair the rollback lands on the pre-vacuum tree -/
example :
    let F0 : Facts := { F with vacuumRepointsSnapshot := false }
    let t1 : Tx Nat Nat := { live := [(1, { mod := 1, row := { deleted := true, dut := 1, cols := [] } })],
                             snapshot := some [(1, { mod := 1, row := { deleted := true, dut := 1, cols := [] } })] }
    ((t1.vacuum F0 (fun _ => [])).rollback F0).live ≠ [] := by decide

theorem txn_facts :
    F.beginClonesTree = true ∧ F.rollbackRestoresSnapshot = true ∧ F.commitKeepsSnapshotOnError = true ∧
    F.beginFixesWriteTime = true ∧ F.endOfTxReleasesWriteTime = true ∧
    F.refreshRefusesDirty = true ∧ F.vacuumRefusesDirty = true ∧ F.syncSkipsRO = true ∧
    F.vacuumRepointsSnapshot = true :=
  ⟨rfl, rfl, rfl, rfl, rfl, rfl, rfl, rfl, rfl⟩

/-- the rollback that "optimises" clean trees away (seeded change): a failed commit leaves the
    transaction's rows in place — shown on the model with the fact switched off -/
theorem conditional_rollback_keeps_failed_transaction :
    let F0 : Facts := { F with rollbackRestoresSnapshot := false }
    let t : Tx Nat Nat := { live := [], snapshot := some [] }
    let wrote : Tx Nat Nat := { t with live := [(1, { mod := 5, row := { deleted := false, dut := 5, cols := [] } })] }
    ((wrote.commit F0 false).rollback F0).live.length = 1 ∧ ((wrote.commit F false).rollback F).live.length = 0 := by
  decide

end S3db.Props.C05
