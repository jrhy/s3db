import S3db.Model.Proto
import S3db.Gen.Facts
import S3db.Lemmas.ProtoInv
/-!
# C03 — concurrent open and commit never hide or lose a committed version

Property theorems only, over the request-level transition system of `Model/Proto.lean`
instantiated with the **generated** facts (`Gen.facts`: order of the requests inside `Commit` and
`moveMergedRoots`, where `Open` looks for a listed version).  `Reachable` quantifies over every
number of clients, every schedule (interleaving at single-request granularity) and crashes
anywhere.  Vacuum is excluded here (C09/C10).
-/
namespace S3db.Props.C03
open S3db S3db.Proto

abbrev F : Facts := S3db.Gen.facts

def Reachable (s : Sys) : Prop := ∃ ros sched, s = run F (init ros) sched

theorem Reachable.inv {s : Sys} (h : Reachable s) : ProtoInv.Inv s := by
  obtain ⟨ros, sched, rfl⟩ := h
  exact ProtoInv.inv_reachable ros sched

/-- a version that was ever listed in `root/current/` stays loadable: it is retired to
    `root/merged/` *before* it is deleted from `root/current/` -/
theorem listed_stays_loadable (s : Sys) (h : Reachable s) (v : Vid) (hv : v ∈ s.stored) :
    v ∈ s.bucket.current ∨ v ∈ s.bucket.merged :=
  h.inv.g.stored_sub v hv

/-- every acknowledged commit has had its version PUT served -/
theorem acked_is_stored (s : Sys) (h : Reachable s) (v : Vid) (hv : v ∈ s.acked) : v ∈ s.stored :=
  h.inv.g.acked_sub v hv

/-- **no committed version is ever lost**: every version whose PUT was served is, at all later
    times and under every interleaving, an ancestor-or-equal of a version in `root/current/` -/
theorem acked_never_lost (s : Sys) (h : Reachable s) (v : Vid) (hv : v ∈ s.stored) :
    ∃ n, n ∈ s.bucket.current ∧ Anc s.vers v n :=
  h.inv.g.covered v hv

/-- **an open sees every version committed before it began**: from the moment its LIST is served
    until it completes, every version stored before the LIST (`seen`) is an ancestor-or-equal of a
    version the open has loaded or is still going to load, and nothing listed gets skipped;
    everything it loads is a stored (committed) version — never a state no history explains -/
theorem open_covers_acked (s : Sys) (h : Reachable s) (i : Nat) (c : Client)
    (hc : s.clients[i]? = some c) (ho : c.opening = true) (hq : c.queue = []) :
    (∀ v, v ∈ c.seen → ∃ n, n ∈ c.loaded ++ c.toLoad ∧ Anc s.vers v n) ∧
    (∀ n, n ∈ c.loaded ++ c.toLoad → n ∈ s.stored) := by
  have hci := h.inv.c i c hc
  refine ⟨(hci.opening ho hq).1, fun n hn => ?_⟩
  rcases List.mem_append.mp hn with hn | hn
  · exact hci.loaded_sub n hn
  · exact hci.toLoad_sub n hn

/-- the ghost field `seen` is what it claims: serving the LIST records every stored version -/
theorem list_records_stored (s : Sys) (i : Nat) (c : Client) (rest : List Req)
    (hc : s.clients[i]? = some c) (ha : c.alive = true) (hq : c.queue = .list :: rest) :
    ∃ c', (step F s i .step).clients[i]? = some c' ∧ c'.seen = s.stored ∧ c'.toLoad = s.bucket.current := by
  rcases List.getElem?_eq_some_iff.mp hc with ⟨hlt, _⟩
  refine ⟨{ c with queue := rest, toLoad := s.bucket.current, tryLocs := none, loaded := [], seen := s.stored },
    ?_, rfl, rfl⟩
  simp only [step, hc, ha, stepClient, hq, setClient, serve]
  simp [hlt]

/-- the facts these proofs rest on, as extracted from the source on this run -/
theorem protocol_facts :
    F.commitOrder = ["flushNodes", "putRoot", "retireParents"] ∧
    F.retireOrder = ["putMerged", "delCurrent"] ∧
    F.openLoadsFrom = ["current", "merged"] ∧
    F.commitChecksErrors = true ∧ F.retireStopsOnPutError = true ∧
    F.missingSkippedOnlyIfSkipUnreadable = true ∧
    F.loadAnySkipCond = "errors.As(err, &ae) && ae.Code() == s3.ErrCodeNoSuchKey" ∧
    F.loadAnyReturnsOtherErrors = true :=
  ⟨rfl, rfl, rfl, rfl, rfl, rfl, rfl, rfl⟩

/-- the race the fix for F15 closed, replayed on the model with the old lookup order
    (`root/current/` only): the opener lists the parent, the writer commits and retires it, and
    the opener then finds nothing — an empty table that no committed history explains -/
theorem old_lookup_order_loses_everything :
    let F0 : Facts := { F with openLoadsFrom := ["current"] }
    let s0 : Sys := run F0 (init [false, false])
      [(0, .startCommit), (0, .step), (0, .step),                       -- writer 0 commits version 0
       (1, .startOpen), (1, .step),                                     -- opener 1 lists {0}
       (0, .startCommit), (0, .step), (0, .step), (0, .step), (0, .step), -- writer commits 1, retires 0
       (1, .step), (1, .step)]                                          -- opener: GET current/0 fails; skipped
    (s0.clients[1]?.map (·.loaded)) = some [] ∧ (s0.clients[1]?.map (·.toLoad)) = some [] ∧ s0.stored = [0, 1] := by
  decide

/-! ### what the theorems above do NOT cover: a vacuum inside the open (F81)

`step` has no action that removes a version from `root/merged/`; `listed_stays_loadable` is a
theorem about writers and openers only.  `s3db_vacuum` with a cutoff younger than a commit that
happened during the open does remove one.  Replayed on the model with that one extra mutation:
the opener has listed version 0, the writer commits version 1 (retiring 0) and vacuums 0 away,
and the opener, which finds 0 in neither place, skips it and completes with nothing — although
version 0 had been stored before it listed (`seen`).  C03's quantifier ("a committing writer")
and C09's ("any connection opened afterwards") both stop short of this schedule; it was recorded
first as finding F81; since repaired in `Open` (`relist_after_vacuum_recovers` below), while the
theorems above still speak of writers and openers only. -/

/-- `DeleteHistoricVersions` removing a retired version object -/
def vacuumDeletes (s : Sys) (v : Vid) : Sys :=
  { s with bucket := { s.bucket with merged := s.bucket.merged.filter (· ≠ v) } }

theorem open_racing_commit_and_vacuum_sees_nothing :
    let s1 : Sys := run F (init [false, true])
      [(0, .startCommit), (0, .step), (0, .step),                       -- writer 0 commits version 0
       (1, .startOpen), (1, .step),                                     -- opener 1 lists {0}
       (0, .startCommit), (0, .step), (0, .step), (0, .step), (0, .step)] -- writer commits 1, retires 0
    let s2 : Sys := run F (vacuumDeletes s1 0)
      [(1, .step), (1, .step), (1, .step), (1, .step)]                  -- GET current/0, GET merged/0, skip, complete
    (s1.clients[1]?.map (·.seen)) = some [0] ∧                          -- 0 was committed before the LIST
    (s2.clients[1]?.map (·.opening)) = some false ∧ (s2.clients[1]?.map (·.source)) = some [] ∧
    s2.bucket.current = [1] := by
  decide

/-- the repaired open (`openRelistsWhenSkipped`): something was skipped, so it lists again and,
    the listing having changed, starts over — which on the model is a second `startOpen`.  It
    finds version 1, which contains version 0: the opener sees what was committed before it began -/
theorem relist_after_vacuum_recovers :
    let s1 : Sys := run F (init [false, true])
      [(0, .startCommit), (0, .step), (0, .step), (1, .startOpen), (1, .step),
       (0, .startCommit), (0, .step), (0, .step), (0, .step), (0, .step)]
    let s2 : Sys := run F (vacuumDeletes s1 0) [(1, .step), (1, .step), (1, .step), (1, .step)]
    let s3 : Sys := run F s2 [(1, .startOpen), (1, .step), (1, .step), (1, .step)]   -- LIST {1}, GET current/1, complete
    (s3.clients[1]?.map (·.source)) = some [1] ∧ ancB s3.vers 2 0 1 = true ∧
    F.openRelistsWhenSkipped = true := by
  decide

/-- the same schedule without the vacuum: the opener finds version 0 under `root/merged/` -/
example :
    let s2 : Sys := run F (init [false, true])
      [(0, .startCommit), (0, .step), (0, .step), (1, .startOpen), (1, .step),
       (0, .startCommit), (0, .step), (0, .step), (0, .step), (0, .step),
       (1, .step), (1, .step), (1, .step)]
    (s2.clients[1]?.map (·.source)) = some [0] := by
  decide

/-! ### lock-step merging opens (finding F83, property C01's last clause)

Two openers that list the same two current versions before either has committed its merge each
write a merge version of their own and retire the old pair: two current versions again. -/

private def round (a b : Nat) : List (Nat × Act) :=
  [(a, .startOpen), (b, .startOpen), (a, .step), (b, .step)] ++      -- both LIST before anything else
  (List.replicate 12 (a, .step)) ++ (List.replicate 12 (b, .step))    -- GETs (the second opener finds the pair under merged/), complete, 6 commit requests

theorem lockstep_merging_opens_do_not_converge :
    let s0 : Sys := run F (init [false, false, false, false])
      [(0, .startCommit), (0, .step), (0, .step), (1, .startCommit), (1, .step), (1, .step)]
    let s1 := run F s0 (round 2 3)
    let s2 := run F s1 (round 2 3)
    s0.bucket.current = [0, 1] ∧ s1.bucket.current = [2, 3] ∧ s2.bucket.current = [4, 5] ∧
    s2.vers.getD 4 [] = [2, 3] ∧ s2.vers.getD 5 [] = [2, 3] := by
  decide

/-- one opener at a time converges: a single current version -/
example :
    let s0 : Sys := run F (init [false, false, false, false])
      [(0, .startCommit), (0, .step), (0, .step), (1, .startCommit), (1, .step), (1, .step)]
    let s1 := run F s0 ([(2, .startOpen)] ++ List.replicate 12 (2, .step) ++ [(3, .startOpen)] ++ List.replicate 12 (3, .step))
    s1.bucket.current = [2] := by
  decide

end S3db.Props.C03
