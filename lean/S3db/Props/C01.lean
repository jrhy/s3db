import S3db.Lemmas.TableCells
import S3db.Gen.Facts
/-!
# C01 — multi-writer merge converges regardless of merge order, grouping and repetition

`evalTables` is the code's fold (`acc.Clone().Merge(graft)`, with
`mergeValues`/`MergeRows` as the custom merge) along an arbitrary merge plan.
-/
namespace S3db.Props.C01
open S3db S3db.AList S3db.Row S3db.Table

variable {K V : Type} [DecidableEq K] [DecidableEq V]

/-- executing a merge plan over the table versions `vs` -/
def evalTables (vs : Nat → Table K V) : Sel.Plan → Table K V
  | .leaf i => vs i
  | .node p q => mergeTables (evalTables vs p) (evalTables vs q)

def statusCell (e : Option (SEntry V)) : Option Status := e.map (·.row.status)
def colCell (c : String) (e : Option (SEntry V)) : Option (ACol V) := e.bind fun e => lookup c e.row.cols
def modCell (e : Option (SEntry V)) : Option Int := e.map (·.mod)

/-- hypotheses on the family of versions: well-formed, written through SQL (`RowInv`), and no
    two different statuses / column assignments of one key carry the same time -/
structure Family (S : List String) (vs : Nat → Table K V) : Prop where
  nodup : ∀ i, NodupKeys (vs i)
  inv   : ∀ i k e, lookup k (vs i) = some e → RowInv S e.row
  stat  : ∀ k i j e e', lookup k (vs i) = some e → lookup k (vs j) = some e' →
            StatusR e.row.status e'.row.status
  col   : ∀ k c i j e e' x y, lookup k (vs i) = some e → lookup k (vs j) = some e' →
            lookup c e.row.cols = some x → lookup c e'.row.cols = some y → ColR x y

omit [DecidableEq V] in
theorem Family.statR {S : List String} {vs : Nat → Table K V} (F : Family S vs) (k : K) :
    ∀ i j x y, statusCell (lookup k (vs i)) = some x → statusCell (lookup k (vs j)) = some y →
      StatusR x y := by
  intro i j x y hx hy
  obtain ⟨e, he, rfl⟩ := Option.map_eq_some_iff.1 hx
  obtain ⟨e', he', rfl⟩ := Option.map_eq_some_iff.1 hy
  exact F.stat k i j e e' he he'

omit [DecidableEq V] in
theorem Family.colR {S : List String} {vs : Nat → Table K V} (F : Family S vs) (k : K) (c : String) :
    ∀ i j x y, colCell c (lookup k (vs i)) = some x → colCell c (lookup k (vs j)) = some y →
      ColR x y := by
  intro i j x y hx hy
  obtain ⟨e, he, hx⟩ := Option.bind_eq_some_iff.1 hx
  obtain ⟨e', he', hy⟩ := Option.bind_eq_some_iff.1 hy
  exact F.col k c i j e e' x y he he' hx hy

/-- the table invariant: every stored row satisfies `RowInv` -/
def TableInv (S : List String) (t : Table K V) : Prop :=
  NodupKeys t ∧ ∀ k e, lookup k t = some e → RowInv S e.row

/-- an INSERT assigns exactly the declared non-key columns (SQLite passes every column) -/
def Covers (S : List String) (vals : AList String V) : Prop :=
  (∀ c, c ∈ S ↔ c ∈ keys vals)

omit [DecidableEq V] in
theorem tableInv_iff {S : List String} {t : Table K V} :
    TableInv S t ↔ TableFrom S (fun _ _ => True) (fun _ _ _ => True) t :=
  ⟨fun h => ⟨h.1, fun k e he => ⟨h.2 k e he, trivial, fun _ _ _ => trivial⟩⟩,
   fun h => ⟨h.1, fun k e he => (h.2 k e he).1⟩⟩

theorem tableInv_insert (S : List String) (t t' : Table K V) (when : Int) (k : K) (vals : AList String V)
    (hc : Covers S vals) (ht : TableInv S t) (h : insertRow t when k vals = .ok t') : TableInv S t' :=
  tableInv_iff.2 (tableFrom_insert (tableInv_iff.1 ht) hc trivial (fun _ _ _ => trivial) h)

theorem tableInv_update (S : List String) (t : Table K V) (when : Int) (k : K) (vals : AList String V)
    (hc : ∀ c, c ∈ keys vals → c ∈ S) (ht : TableInv S t) : TableInv S (updateRow t when k vals) :=
  tableInv_iff.2 (tableFrom_update when k vals (tableInv_iff.1 ht) hc fun _ _ _ => trivial)

theorem tableInv_delete (S : List String) (t : Table K V) (when : Int) (k : K)
    (ht : TableInv S t) : TableInv S (deleteRow t when k) :=
  tableInv_iff.2 (tableFrom_delete when k (tableInv_iff.1 ht) trivial)

theorem tableInv_merge (S : List String) (a g : Table K V) (ha : TableInv S a) (hg : TableInv S g) :
    TableInv S (mergeTables a g) :=
  tableInv_iff.2 (tableFrom_merge (tableInv_iff.1 ha) (tableInv_iff.1 hg))

theorem tableInv_evalTables {S : List String} {vs : Nat → Table K V} (F : Family S vs) :
    ∀ p, TableInv S (evalTables vs p)
  | .leaf i => ⟨F.nodup i, F.inv i⟩
  | .node p q => tableInv_merge S _ _ (tableInv_evalTables F p) (tableInv_evalTables F q)

/-- a cell `g` of the stored entry that `mergeEntry` selects (on SQL-shaped rows, between related
    cells) is, after any plan, the selection over the plan's leaves -/
theorem cell_evalTables {C : Type} {sel : C → C → C} {R : C → C → Prop} (L : Sel.Laws sel R)
    {cell : Option (SEntry V) → Option C} {g : SEntry V → Option C} (hcell : ∀ o, cell o = o.bind g)
    {S : List String} {vs : Nat → Table K V} (F : Family S vs) (k : K)
    (hR : ∀ i j x y, cell (lookup k (vs i)) = some x → cell (lookup k (vs j)) = some y → R x y)
    (hg : ∀ x y, RowInv S x.row → RowInv S y.row → (∀ a b, g x = some a → g y = some b → R a b) →
      g (mergeEntry x y) = Sel.selOpt sel (g x) (g y)) :
    ∀ p, cell (lookup k (evalTables vs p)) = Sel.evalAt sel (fun i => cell (lookup k (vs i))) p
  | .leaf _ => rfl
  | .node p q => by
    have ihp := cell_evalTables L hcell F k hR hg p
    have ihq := cell_evalTables L hcell F k hR hg q
    rw [evalTables, mergeTables, Kv.lookup_mergeTrees mergeEntry _ (tableInv_evalTables F q).1,
      Sel.evalAt, ← ihp, ← ihq, hcell, hcell, hcell]
    refine Kv.mergeOpt_cell L g _ _ fun x y hx hy => ?_
    exact hg x y ((tableInv_evalTables F p).2 k x hx) ((tableInv_evalTables F q).2 k y hy)
      fun a b ha hb => Sel.evalAt_rel L hR p q
        (by rw [← ihp, hcell, hx]; exact ha) (by rw [← ihq, hcell, hy]; exact hb)

/-- every cell of every key after any plan is the cell-wise selection over the plan's leaves -/
theorem cells_of_plan (S : List String) (vs : Nat → Table K V) (F : Family S vs) (k : K) (p : Sel.Plan) :
    statusCell (lookup k (evalTables vs p)) = Sel.evalAt selStatus (fun i => statusCell (lookup k (vs i))) p ∧
    (∀ c, colCell c (lookup k (evalTables vs p)) = Sel.evalAt selCol (fun i => colCell c (lookup k (vs i))) p) ∧
    (∀ e, lookup k (evalTables vs p) = some e → RowInv S e.row) :=
  ⟨cell_evalTables statusLaws (g := fun e => some e.row.status) (fun o => by cases o <;> rfl) F k (F.statR k)
      (fun x y _ _ h => congrArg some (mergeEntry_status x y (h _ _ rfl rfl))) p,
    fun c => cell_evalTables colLaws (fun _ => rfl) F k (F.colR k c)
      (fun x y hx hy h => mergeEntry_col S x y hx hy c h) p,
    (tableInv_evalTables F p).2 k⟩

/-- **C01 (rows)**: two readers that merged the same set of versions hold, for every key, the
    same status and the same value and time in every column — whatever the order, the grouping
    and the repetitions of their merges. -/
theorem C01_converges (S : List String) (vs : Nat → Table K V) (F : Family S vs)
    (p q : Sel.Plan) (hpq : ∀ i, i ∈ p.leaves ↔ i ∈ q.leaves) (k : K) :
    statusCell (lookup k (evalTables vs p)) = statusCell (lookup k (evalTables vs q)) ∧
    ∀ c, colCell c (lookup k (evalTables vs p)) = colCell c (lookup k (evalTables vs q)) := by
  obtain ⟨hsp, hcp, _⟩ := cells_of_plan S vs F k p
  obtain ⟨hsq, hcq, _⟩ := cells_of_plan S vs F k q
  refine ⟨?_, fun c => ?_⟩
  · rw [hsp, hsq]; exact Sel.evalAt_indep statusLaws (F.statR k) p q hpq
  · rw [hcp c, hcq c]; exact Sel.evalAt_indep colLaws (F.colR k c) p q hpq

/-- what SQL shows is the same: same keys visible, same value in every column -/
theorem C01_visible (S : List String) (vs : Nat → Table K V) (F : Family S vs)
    (p q : Sel.Plan) (hpq : ∀ i, i ∈ p.leaves ↔ i ∈ q.leaves) (k : K) :
    (visibleRow (evalTables vs p) k).isSome = (visibleRow (evalTables vs q) k).isSome ∧
    ∀ c, (visibleRow (evalTables vs p) k).bind (lookup c) = (visibleRow (evalTables vs q) k).bind (lookup c) := by
  obtain ⟨hs, hc⟩ := C01_converges S vs F p q hpq k
  simp only [statusCell, colCell] at hs hc
  simp only [visibleRow_isSome, visibleRow_col, hs, hc, true_and, implies_true]

/-- **merging adds nothing when nothing new was committed**: merging again a version (or a merge of
    versions) that is already included leaves every cell unchanged -/
theorem C01_remerge_absorbs (S : List String) (vs : Nat → Table K V) (F : Family S vs)
    (p q : Sel.Plan) (hsub : ∀ i, i ∈ q.leaves → i ∈ p.leaves) (k : K) :
    statusCell (lookup k (evalTables vs (.node p q))) = statusCell (lookup k (evalTables vs p)) ∧
    ∀ c, colCell c (lookup k (evalTables vs (.node p q))) = colCell c (lookup k (evalTables vs p)) := by
  obtain ⟨hsp, hcp, _⟩ := cells_of_plan S vs F k p
  obtain ⟨hsn, hcn, _⟩ := cells_of_plan S vs F k (.node p q)
  refine ⟨?_, fun c => ?_⟩
  · rw [hsp, hsn]; exact Sel.evalAt_absorb statusLaws (F.statR k) p q hsub
  · rw [hcp c, hcn c]; exact Sel.evalAt_absorb colLaws (F.colR k c) p q hsub

/-- `MergeRows` is **not** a join on arbitrary hand-built rows (kept so that nobody mistakes it
    for one): the invariant `RowInv` is what SQL-written rows add -/
theorem merge_not_join_unreachable :
    ∃ x y z : ARow Nat, ∃ c : String,
      lookup c (mergeRows (mergeRows x y) z).cols ≠ lookup c (mergeRows x (mergeRows y z)).cols := by
  refine ⟨{ deleted := true, dut := 5, cols := [] },
          { deleted := false, dut := 10, cols := [("b", ⟨1, 12⟩)] },
          { deleted := false, dut := 20, cols := [] }, "b", ?_⟩
  decide

/-- the decision points of `MergeRows` / `mergeValues` that `Model/Row.lean` and `Model/Table.lean`
    follow, as read from the source on this run (the models are also run against the real
    functions by the `rows` and `tbl` streams) -/
theorem merge_facts :
    S3db.Gen.facts.mergeStatusCond = "!t1.Add(r1.DeleteUpdateOffset.AsDuration()).After(t2.Add(r2.DeleteUpdateOffset.AsDuration()))" ∧
    S3db.Gen.facts.mergeStatusBranchesAsExpected = true ∧ S3db.Gen.facts.mergeColumnSwitchAsExpected = true ∧
    S3db.Gen.facts.deletedRowsKeepColumns = true ∧ S3db.Gen.facts.hideAndAdjAsExpected = true ∧
    S3db.Gen.facts.mergeValuesAsExpected = true :=
  ⟨rfl, rfl, rfl, rfl, rfl, rfl⟩

/-- non-vacuity: a three-version family (delete / re-insert / concurrent update) satisfies the
    hypotheses, and two different groupings agree on it -/
example :
    let ins1 : ARow Nat := { deleted := false, dut := 1, cols := [("b", ⟨10, 1⟩), ("c", ⟨20, 1⟩)] }
    let x : ARow Nat := mergeRows ins1 { deleted := true, dut := 5, cols := [] }
    let y : ARow Nat := mergeRows x { deleted := false, dut := 10, cols := [("b", ⟨11, 10⟩), ("c", ⟨21, 10⟩)] }
    let z : ARow Nat := mergeRows ins1 { deleted := false, dut := 1, cols := [("c", ⟨22, 12⟩)] }
    RowInv ["b", "c"] x ∧ RowInv ["b", "c"] y ∧ RowInv ["b", "c"] z ∧
    lookup "c" (mergeRows (mergeRows x y) z).cols = lookup "c" (mergeRows x (mergeRows y z)).cols ∧
    lookup "c" (mergeRows (mergeRows x y) z).cols = some ⟨22, 12⟩ := by
  intro ins1 x y z
  exact ⟨rowInv_of_rowInvB (by decide), rowInv_of_rowInvB (by decide), rowInv_of_rowInvB (by decide),
    by decide, by decide⟩

end S3db.Props.C01
