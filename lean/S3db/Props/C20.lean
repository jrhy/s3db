import S3db.Model.Schema
import S3db.Gen.Facts
import S3db.Lemmas.SchemaLemmas
/-!
# C20 — table definitions are accepted, declared and rejected consistently

Theorems about the decision logic of `Model/Schema.lean` (the actions of `sql.Schema`,
`convertSchema`, the option loop of `New`), for every list of column items and options.
How a definition is *spelt* (quoting, case, white space) is validated differentially by the
`schema` stream, which renders every structure in many spellings.
-/
namespace S3db.Props.C20
open S3db S3db.Schema

abbrev F : Facts := S3db.Gen.facts

/-- the names of the column items, in order -/
def colNames : List Item → List String
  | [] => []
  | .col n _ _ :: rest => n :: colNames rest
  | .tablePK _ :: rest => colNames rest

def colNotNull : List Item → List (String × Bool)
  | [] => []
  | .col n _ cs :: rest => (n, cs.contains .notNull) :: colNotNull rest
  | .tablePK _ :: rest => colNotNull rest

theorem colNames_eq_map (items : List Item) : colNames items = (colNotNull items).map Prod.fst := by
  induction items with
  | nil => rfl
  | cons it rest ih => cases it <;> simp [colNames, colNotNull, ih]

theorem foldl_parseItem_cols (items : List Item) (p : Parsed) :
    (items.foldl parseItem p).cols.map decl = p.cols.map decl ++ colNotNull items := by
  induction items generalizing p with
  | nil => simp [colNotNull]
  | cons it items ih =>
    rw [List.foldl_cons, ih, parseItem_cols]
    cases it <;> simp [colNotNull]

theorem parse_cols (items : List Item) : (parse items).cols.map decl = colNotNull items := by
  simpa [parse] using foldl_parseItem_cols items {}

theorem parse_names (items : List Item) : (parse items).cols.map Col.name = colNames items := by
  rw [colNames_eq_map, ← parse_cols, List.map_map]
  rfl

theorem F_unknownOptionRejected : F.unknownOptionRejected = true := rfl

/-- **declared_matches**: an accepted definition declares exactly the specified columns, in the
    specified order, with NOT NULL where (and only where) it was specified -/
theorem declared_matches (items : List Item) (d : Declared) (h : convert items = some d) :
    d.cols = colNotNull items := by
  rw [(convert_some h).1, parse_cols]

/-- … and its key is the single column named by the one PRIMARY KEY clause, which is a declared column -/
theorem declared_key (items : List Item) (d : Declared) (k : String) (h : convert items = some d)
    (hk : d.key = some k) : k ∈ colNames items := by
  rw [← parse_names]
  exact ((convert_some h).2 k hk).2

/-- … found whatever the case the PRIMARY KEY clause is written in, and declared in the column's
    own spelling (F96; fact `keyColumnFoldedLookup`) -/
theorem declared_key_named_by_clause (items : List Item) (d : Declared) (k : String)
    (h : convert items = some d) (hk : d.key = some k) :
    ∃ k0, (parse items).pk = [k0] ∧ lower k = lower k0 :=
  ((convert_some h).2 k hk).1

/-- `id, name, PRIMARY KEY(ID)` is accepted with the key `id` -/
example :
    convert [.col "id" true [], .col "name" true [], .tablePK ["ID"]] =
      some { cols := [("id", false), ("name", false)], key := some "id" } := by
  simp only [convert, Function.comp_def, lower_eq]
  decide

/-- UNIQUE anywhere is rejected -/
theorem rejects_unique (pre post : List Item) (n : String) (t : Bool) (cs : List Cons) (h : Cons.unique ∈ cs) :
    convert (pre ++ .col n t cs :: post) = none :=
  convert_none_of_bad_item List.mem_append_cons_self (.inr (.inl h))

/-- DEFAULT / CHECK / REFERENCES / COLLATE … (anything the grammar does not know) is rejected -/
theorem rejects_default (pre post : List Item) (n : String) (t : Bool) (cs : List Cons) (h : Cons.other ∈ cs) :
    convert (pre ++ .col n t cs :: post) = none :=
  convert_none_of_bad_item List.mem_append_cons_self (.inr (.inr h))

/-- an unknown type word is rejected -/
theorem rejects_unknown_type (pre post : List Item) (n : String) (cs : List Cons) :
    convert (pre ++ .col n false cs :: post) = none :=
  convert_none_of_bad_item List.mem_append_cons_self (.inl rfl)

/-- a composite key is rejected -/
theorem rejects_composite (pre post : List Item) (ns : List String) (h : ns.length ≥ 2) :
    convert (pre ++ .tablePK ns :: post) = none :=
  convert_none_of_bad_item List.mem_append_cons_self (Nat.ne_of_gt h)

/-- two columns with the same name (in any case) are rejected -/
theorem rejects_duplicate_column (items : List Item) (h : hasDup ((colNames items).map lower) = true) :
    convert items = none := by
  apply convert_none_of_dup
  rwa [← List.map_map, parse_names]

/-- an empty column list is rejected -/
theorem rejects_empty : convert [] = none := by
  decide

theorem rejects_unknown_option (o : Opts) (name : String) (v : OptVal)
    (h : name ∉ ["readonly", "entries_per_node", "node_cache_entries", "s3_bucket", "s3_endpoint", "s3_prefix", "columns"]) :
    applyOpt o name v = none := by
  simp only [List.mem_cons, List.not_mem_nil, or_false, not_or] at h
  obtain ⟨h1, h2, h3, h4, h5, h6, h7⟩ := h
  simp [applyOpt, h1, h2, h3, h4, h5, h6, h7]

theorem rejects_missing_value (o : Opts) (name : String) (h : name ≠ "readonly") :
    applyOpt o name .none = none := by
  simp [applyOpt, h]

theorem rejects_readonly_value (o : Opts) (v : OptVal) (h : v ≠ .none) : applyOpt o "readonly" v = none := by
  simp [applyOpt, h]

theorem rejects_malformed_number (o : Opts) (name : String)
    (h : name = "entries_per_node" ∨ name = "node_cache_entries") : applyOpt o name .text = none := by
  rcases h with rfl | rfl <;> simp [applyOpt]

theorem rejects_negative_or_huge (o : Opts) (name : String) (n : Int)
    (h : name = "entries_per_node" ∨ name = "node_cache_entries") (hn : n < 0 ∨ n ≥ (2:Int)^31) :
    applyOpt o name (.number n) = none := by
  have hb : (int32 n && decide (0 ≤ n)) = false := by
    simp only [int32, Bool.and_eq_false_iff, decide_eq_false_iff_not]; omega
  rcases h with rfl | rfl <;> simp [applyOpt, hb]

/-- a well-formed size is stored as given -/
theorem accepts_size (o : Opts) (n : Int) (h0 : 0 ≤ n) (h1 : n < (2:Int)^31) :
    applyOpt o "entries_per_node" (.number n) = some { o with entriesPerNode := n } ∧
    applyOpt o "node_cache_entries" (.number n) = some { o with nodeCache := n } := by
  have hb : (int32 n && decide (0 ≤ n)) = true := by
    simp only [int32, Bool.and_eq_true, decide_eq_true_eq]; omega
  constructor <;> simp [applyOpt, hb]

/-- a duplicated option is rejected, wherever the two occurrences are -/
theorem rejects_duplicated_option (o : Opts) (seen : List String) (pre post : List (String × OptVal))
    (name : String) (v1 v2 : OptVal) (mid : List (String × OptVal)) :
    applyOpts o seen (pre ++ (name, v1) :: mid ++ (name, v2) :: post) = none := by
  cases h : applyOpts o seen (pre ++ (name, v1) :: mid ++ (name, v2) :: post) with
  | none => rfl
  | some o' =>
    -- `name` stands in both halves of a list without repetitions
    have hn := (applyOpts_some h).1
    simp only [List.map_append, List.map_cons] at hn
    exact absurd rfl ((List.nodup_append.1 hn).2.2 name List.mem_append_cons_self name List.mem_cons_self)

/-- one bad option rejects the whole definition, whatever the columns are -/
theorem bad_option_rejects_create (items : Option (List Item)) (opts : List (String × OptVal))
    (h : applyOpts {} [] opts = none) : create F items opts = none := by
  simp [create, F_unknownOptionRejected, h]

/-- **reject_no_effect**: every argument is parsed and checked before the bucket is opened, the
    table is registered only after that, and a declaration SQLite refuses unregisters it -/
theorem reject_no_effect_facts :
    F.argsBeforeOpen = true ∧ F.registerAfterOpen = true ∧ F.declareFailureUnregisters = true ∧
    F.unknownOptionRejected = true :=
  ⟨rfl, rfl, rfl, rfl⟩

/-- **a rejected definition leaves no table registered**, at whichever step it is rejected: by
    the arguments, by the storage that cannot be opened, or by SQLite refusing the declaration -/
theorem reject_no_effect (dec opens declOK : Bool) (h : (createEff F dec opens declOK).1 = false) :
    (createEff F dec opens declOK).2 = false :=
  (createEff_snd F rfl rfl rfl ..).trans h

/-- with the registration in front of the storage open (a seeded variant) a definition rejected
    by the storage stays registered -/
theorem register_before_open_leaks :
    (createEff { F with registerAfterOpen := false } true false true) = (false, true) := by
  decide

/-- **a rejected definition leaves the bucket as it was**, also where an open would have stored
    the merge of several unmerged versions (F61) -/
theorem rejected_definition_writes_nothing (dec namesOK opens multi : Bool)
    (h : (createWrites F dec namesOK opens multi).1 = false) :
    (createWrites F dec namesOK opens multi).2 = false :=
  createWrites_rejected F rfl _ _ _ _ h

/-- with the names checked by SQLite's declare only (after the open): two unmerged versions, a
    definition with columns `a, A` — rejected, and a merge version written -/
theorem late_name_check_writes_a_merge :
    createWrites { F with declarableCheckedBeforeOpen := false } true false true true = (false, true) := by
  decide

/-- the text level of the definition, which the structural model does not see: the grammar takes
    no dangling comma and no keywords run together, an untyped column gets no type, and option
    values are used as written (only string literals lose their quotes) -/
theorem grammar_facts : F.schemaGrammarStrict = true ∧ F.unquoteOnlyStrings = true := ⟨rfl, rfl⟩

/-- … option values are taken as written (no stray blank, no octal), and what SQLite would refuse
    to declare is refused before the storage is opened, so a rejected definition writes nothing
    even where an open would have stored a merge (F59, F61) -/
theorem option_facts :
    F.optionValuesAsWritten = true ∧ F.declarableCheckedBeforeOpen = true ∧ F.keyColumnFoldedLookup = true :=
  ⟨rfl, rfl, rfl⟩

/-- non-vacuity: the README's own example is accepted as specified -/
example :
    create F (some [.col "id" true [.primaryKey], .col "name" true [], .col "email" true [.notNull]])
      [("node_cache_entries", .number 1000)] =
    some ({ cols := [("id", false), ("name", false), ("email", true)], key := some "id" }, { nodeCache := 1000 }) := by
  simp only [create, convert, Function.comp_def, lower_eq]
  decide

end S3db.Props.C20
