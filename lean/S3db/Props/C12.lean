import S3db.Model.Changes
import S3db.Gen.Facts
/-!
# C12 — s3db_changes reports exactly the rows that differ between two versions
-/
namespace S3db.Props.C12
open S3db S3db.AList S3db.Row S3db.Table S3db.Changes

variable {K V : Type} [DecidableEq K] [DecidableEq V]

theorem mem_dedupK {k : K} {ks : List K} : k ∈ dedupK ks ↔ k ∈ ks :=
  mem_dedup_of rfl fun _ _ => rfl

theorem mem_diffKeys (frm to : Table K V) (k : K) :
    k ∈ diffKeys frm to ↔ lookup k to ≠ lookup k frm := by
  simp only [diffKeys, List.mem_filter, decide_eq_true_eq, mem_dedupK, List.mem_append,
    and_iff_right_iff_imp]
  -- a key of neither table has no entry in either
  refine fun h => Classical.byContradiction fun hc => h ?_
  rw [not_or] at hc
  rw [lookup_eq_none_iff.2 hc.1, lookup_eq_none_iff.2 hc.2]

/-- the cursor shows, for each differing key, what a SELECT on `to` shows -/
theorem changes_eq (frm to : Table K V) :
    changes frm to = (diffKeys frm to).filterMap fun k => (visibleRow to k).map (k, ·) := by
  unfold changes visibleRow visible
  congr 1
  funext k
  cases lookup k to with
  | none => rfl
  | some e => simp only; split <;> rfl

theorem mem_changes (frm to : Table K V) (k : K) (cols : AList String (ACol V)) :
    (k, cols) ∈ changes frm to ↔ lookup k to ≠ lookup k frm ∧ visibleRow to k = some cols := by
  simp only [changes_eq, List.mem_filterMap, mem_diffKeys, Option.map_eq_some_iff, Prod.mk.injEq,
    exists_eq_right_right]

/-- **sound**: every returned row is a row visible in `to`, exactly as stored there -/
theorem changes_sound (frm to : Table K V) (k : K) (cols : AList String (ACol V))
    (h : (k, cols) ∈ changes frm to) : visibleRow to k = some cols :=
  ((mem_changes frm to k cols).1 h).2

/-- **complete**: every row visible in `to` that is absent from `from` or differs from it in any
    way (any column value, any time, status) is returned -/
theorem changes_complete (frm to : Table K V) (k : K) (cols : AList String (ACol V))
    (hv : visibleRow to k = some cols) (hd : lookup k to ≠ lookup k frm) :
    (k, cols) ∈ changes frm to :=
  (mem_changes frm to k cols).2 ⟨hd, hv⟩

/-- in particular a row that is visible in `to` and not visible in `from` is returned -/
theorem changes_complete_new (frm to : Table K V) (k : K) (cols : AList String (ACol V))
    (hv : visibleRow to k = some cols) (hf : visibleRow frm k = none) :
    (k, cols) ∈ changes frm to := by
  refine changes_complete frm to k cols hv fun heq => ?_
  unfold visibleRow at hv hf
  rw [heq, hf] at hv
  cases hv

/-- **deleted rows are silent**: a key whose row in `to` is a delete marker (or absent) is not
    returned, and the query does not fail because of it -/
theorem changes_deleted_silent (frm to : Table K V) (k : K) (h : visibleRow to k = none) :
    ∀ cols, (k, cols) ∉ changes frm to := fun cols hm =>
  nomatch h ▸ changes_sound frm to k cols hm

/-- **a failing read fails the query**: never a shorter list -/
theorem changes_fault (errs : K → Bool) (frm to : Table K V) :
    changesWithFaults errs frm to = none ∨ changesWithFaults errs frm to = some (changes frm to) := by
  unfold changesWithFaults
  split
  · left; rfl
  · right; rfl

/-- the named versions must be readable: a version that cannot be loaded is an error, never an
    empty table (`loadErrorSkipCond` keeps the `skipUnreadable` guard; historic opens pass `false`) -/
theorem changes_facts :
    S3db.Gen.facts.historicFailsOnMissing = true ∧ S3db.Gen.facts.missingSkippedOnlyIfSkipUnreadable = true ∧
    S3db.Gen.facts.mergeErrorsReturned = true ∧
    S3db.Gen.facts.loadErrorSkipCond = "errors.As(err, &ae) && ae.Code() == s3.ErrCodeNoSuchKey && skipUnreadable" :=
  ⟨rfl, rfl, rfl, rfl⟩

/-- non-vacuity: v1 = {1,2}, v2 = {1 (changed), 3}, key 2 deleted in between -/
example :
    let r (v : Nat) (t : Int) : SEntry Nat := { mod := t, row := { deleted := false, dut := t, cols := [("a", ⟨v, t⟩)] } }
    let v1 : Table Nat Nat := [(1, r 10 1), (2, r 20 2)]
    let v2 : Table Nat Nat := [(1, r 11 5), (2, { mod := 6, row := { deleted := true, dut := 6, cols := [("a", ⟨20, 2⟩)] } }), (3, r 30 7)]
    (changes v1 v2).map (·.1) = [3, 1] ∧ (changes v2 v1).map (·.1) = [1, 2] := by
  decide

end S3db.Props.C12
