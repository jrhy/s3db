import S3db.Model.Scan
import S3db.Gen.Facts
import S3db.Lemmas.ScanLemmas
/-!
# C06 — a single-writer table behaves like the same table in plain SQLite (scan part)

What SQLite finally returns for a key-constrained scan of the virtual table is exactly the live
rows that satisfy every constraint, in key order (ascending or descending) — for every set of
usable constraints on the key (`=`, `<`, `<=`, `>=`, `>`, any number of them, contradictory ones
included), every tree content, both directions.  Stated for the **generated** facts (`Gen.facts`).
The statement outcomes (uniqueness, NOT NULL, absent-row no-ops) are in `Props/C02.lean`
(`insert_refused_iff`, `update_absent_noop`) and the mast cursor contract is assumed (`MastSpec`).
-/
namespace S3db.Props.C06
open S3db S3db.Scan

abbrev F : Facts := S3db.Gen.facts

variable {K : Type}

theorem fallback_fact : F.descSeekFallsBackToMax = true := rfl

-- (holds for any `cmp`: the order laws are not needed for this direction, so `L` is unused)
set_option linter.unusedVariables false in
/-- the window never excludes a key that satisfies all constraints -/
theorem window_sound (cmp : K → K → Int) (L : OrderLaws cmp) (cs : List (Con K)) (k : K)
    (h : sat cmp cs k = true) :
    (∀ m, (window cmp cs).min = some m → cmp k m ≥ 0 ∧ ((window cmp cs).gtMin = true → cmp k m > 0)) ∧
    (∀ m, (window cmp cs).max = some m → cmp k m ≤ 0 ∧ ((window cmp cs).ltMax = true → cmp k m < 0)) :=
  window_inWin cmp cs k h

/-- **scan_complete**: after SQLite's re-check, an ascending scan returns exactly the live keys
    satisfying the constraints, in ascending order -/
theorem scan_complete_asc (cmp : K → K → Int) (L : OrderLaws cmp) (cs : List (Con K)) (es : List (Ent K))
    (hs : Sorted cmp es) :
    recheck cmp cs (scan F cmp false cs es) = expected cmp false cs es :=
  filter_scan F fallback_fact L cs _ (fun _ h => h) false hs

/-- … and a descending scan returns them in descending order (the scan itself may start one key
    above an upper bound that is not stored; the re-check removes it) -/
theorem scan_complete_desc (cmp : K → K → Int) (L : OrderLaws cmp) (cs : List (Con K)) (es : List (Ent K))
    (hs : Sorted cmp es) :
    recheck cmp cs (scan F cmp true cs es) = expected cmp true cs es :=
  filter_scan F fallback_fact L cs _ (fun _ h => h) true hs

/-- the re-check really happens: the module never asks SQLite to omit it, a NULL operand yields
    an empty scan instead of a panic, and the decision points of `Filter`/`Next` read as modelled -/
theorem scan_facts :
    F.bestIndexNeverOmits = true ∧ F.filterNullOperandEmpty = true ∧ F.descSeekFallsBackToMax = true ∧
    F.filterWindowAsExpected = true ∧ F.nextAsExpected = true ∧
    F.filterMaxOps = ["OpLT", "OpLE", "OpEQ"] ∧ F.filterMinOps = ["OpGT", "OpGE", "OpEQ"] :=
  ⟨rfl, rfl, rfl, rfl, rfl, rfl, rfl⟩

/-- without the fall-back to `Max` (the code before the F2 fix) a descending scan whose upper
    bound lies above the last key returns nothing: keys {1,3}, `k <= 5 ORDER BY k DESC` -/
theorem without_fallback_desc_scan_is_empty :
    let F0 : Facts := { F with descSeekFallsBackToMax := false }
    let cmp : Int → Int → Int := fun a b => if a < b then -1 else if b < a then 1 else 0
    recheck cmp [(.le, 5)] (scan F0 cmp true [(.le, 5)] [(1, false), (3, false)]) = [] ∧
    expected cmp true [(.le, 5)] [(1, false), (3, false)] = [3, 1] := by
  decide

/-- the over-approximation is real (so `Omit` must stay off): keys {1,3,7}, `k = 5 … DESC`
    makes the module return 7, which only the re-check removes -/
theorem desc_scan_overshoots_before_recheck :
    let cmp : Int → Int → Int := fun a b => if a < b then -1 else if b < a then 1 else 0
    scan F cmp true [(.eq, 5)] [(1, false), (3, false), (7, false)] = [7] ∧
    recheck cmp [(.eq, 5)] (scan F cmp true [(.eq, 5)] [(1, false), (3, false), (7, false)]) = [] := by
  decide

/-! ### comparisons under another collation (F62) -/

theorem collation_fact : F.bestIndexSkipsOtherCollations = true := rfl

/-- a key that passes SQLite's evaluation of all constraints satisfies those handed to `Filter`:
    they are BINARY, and for these SQLite's relation is the tree's -/
theorem sat_pushed_of_satC (cmp : K → K → Int) (sat' : K → Con K → Bool) (cs : List (CCon K)) (k : K)
    (h : cs.all (satC cmp sat' k) = true) : sat cmp (pushed F cs) k = true := by
  simp only [sat, pushed, collation_fact, Bool.not_true, Bool.or_false, List.all_eq_true, List.mem_map,
    List.mem_filter] at h ⊢
  rintro _ ⟨c, ⟨hc, hb⟩, rfl⟩
  simpa [satC, hb] using h c hc

/-- **scan_complete under any collation**: whatever relation SQLite uses for the constraints that
    are not BINARY, after its re-check the scan returns exactly the live keys satisfying ALL
    constraints, in order — because those constraints never narrow the scan -/
theorem scan_complete_collated (cmp : K → K → Int) (L : OrderLaws cmp) (sat' : K → Con K → Bool)
    (desc : Bool) (cs : List (CCon K)) (es : List (Ent K)) (hs : Sorted cmp es) :
    recheckC cmp sat' cs (scan F cmp desc (pushed F cs) es) = expectedC cmp sat' desc cs es :=
  filter_scan F fallback_fact L _ _ (sat_pushed_of_satC cmp sat' cs) desc hs

/-- the defect F62 on the model without the rule: keys 3 and 103 are equal under a collation that
    compares modulo 100; `k = 3` under it must return both, the bytewise window returns one -/
theorem pushed_collated_eq_loses_rows :
    let F0 : Facts := { F with bestIndexSkipsOtherCollations := false }
    let cmp : Int → Int → Int := fun a b => if a < b then -1 else if b < a then 1 else 0
    let sat' : Int → Con Int → Bool := fun k c => k % 100 == c.2 % 100
    let cs : List (CCon Int) := [{ con := (.eq, 3), binary := false }]
    let es : List (Ent Int) := [(3, false), (50, false), (103, false)]
    recheckC cmp sat' cs (scan F0 cmp false (pushed F0 cs) es) = [3] ∧
    expectedC cmp sat' false cs es = [3, 103] ∧
    recheckC cmp sat' cs (scan F cmp false (pushed F cs) es) = [3, 103] := by
  decide

end S3db.Props.C06
