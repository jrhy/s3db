import S3db.Props.C01
/-!
# C01 (continued) — the hypotheses of `C01_converges` hold for everything SQL histories produce

`C01.Family` asks that the versions being merged satisfy `RowInv` and that no two different
statuses / column assignments of one key carry the same time.  Here this is *derived*: a history
is the set of cells its accepted statements introduce (`Hist`); "pairwise distinct write times
on conflicting rows, or byte-identical retries" is `Hist.Functional`; `Reach` is what writers
and readers can build from the empty table with INSERT / UPDATE / DELETE and merges in any order
and grouping.  Every reachable table draws all of its cells from the history (`reach_from`), so
any family of reachable versions is a `Family` (`reach_family`) and C01 holds for it outright
(`C01_holds`).
-/
namespace S3db.Props.C01
open S3db S3db.AList S3db.Row S3db.Table

variable {K V : Type} [DecidableEq K] [DecidableEq V]

/-- the cells the accepted statements of a history introduce -/
structure Hist (K V : Type) where
  statuses : K → List Status                 -- by INSERT (live) and DELETE (deleted) statements on the key
  assigns : K → String → List (ACol V)       -- by INSERT and UPDATE statements on (key, column)

/-- distinct write times on conflicting rows (byte-identical retries introduce the same cell) -/
def Hist.Functional (H : Hist K V) : Prop :=
  (∀ k s s', s ∈ H.statuses k → s' ∈ H.statuses k → s.dut = s'.dut → s = s') ∧
  (∀ k c x y, x ∈ H.assigns k c → y ∈ H.assigns k c → x.t = y.t → x = y)

/-- every cell of the table comes from the history, and its rows are SQL-shaped -/
def From (H : Hist K V) (S : List String) (t : Table K V) : Prop :=
  NodupKeys t ∧ ∀ k e, lookup k t = some e →
    RowInv S e.row ∧ e.row.status ∈ H.statuses k ∧ ∀ c x, lookup c e.row.cols = some x → x ∈ H.assigns k c

/-- what any number of writers and readers can build: statements of the history applied to
    reachable tables, and merges of reachable tables in any order and grouping -/
inductive Reach (H : Hist K V) (S : List String) : Table K V → Prop where
  | empty : Reach H S []
  | insert {t t' : Table K V} {when : Int} {k : K} {vals : AList String V} :
      Reach H S t → Covers S vals → (⟨when, false⟩ : Status) ∈ H.statuses k →
      (∀ c v, lookup c vals = some v → (⟨v, when⟩ : ACol V) ∈ H.assigns k c) →
      insertRow t when k vals = .ok t' → Reach H S t'
  | update {t : Table K V} {when : Int} {k : K} {vals : AList String V} :
      Reach H S t → (∀ c, c ∈ keys vals → c ∈ S) →
      (∀ c v, lookup c vals = some v → (⟨v, when⟩ : ACol V) ∈ H.assigns k c) →
      Reach H S (updateRow t when k vals)
  | delete {t : Table K V} {when : Int} {k : K} :
      Reach H S t → (⟨when, true⟩ : Status) ∈ H.statuses k → Reach H S (deleteRow t when k)
  | merge {a g : Table K V} : Reach H S a → Reach H S g → Reach H S (mergeTables a g)

/-- every reachable table draws all of its cells from the history -/
theorem reach_from (H : Hist K V) (S : List String) (t : Table K V) (h : Reach H S t) : From H S t := by
  -- `From H S` is `TableFrom` for the predicates "is a cell of the history"
  show TableFrom S (fun k s => s ∈ H.statuses k) (fun k c x => x ∈ H.assigns k c) t
  induction h with
  | empty => exact tableFrom_nil
  | insert _ hc hs hv hok ih => exact tableFrom_insert ih hc hs hv hok
  | update _ hc hv ih => exact tableFrom_update _ _ _ ih hc hv
  | delete _ hs ih => exact tableFrom_delete _ _ ih hs
  | merge _ _ iha ihg => exact tableFrom_merge iha ihg

/-- any family of reachable versions of a history with distinct times is a `Family` -/
theorem reach_family (H : Hist K V) (S : List String) (hf : H.Functional) (vs : Nat → Table K V)
    (hr : ∀ i, Reach H S (vs i)) : Family S vs := by
  have hfrom := fun i => reach_from H S (vs i) (hr i)
  refine ⟨fun i => (hfrom i).1, fun i k e he => ((hfrom i).2 k e he).1, ?_, ?_⟩
  · intro k i j e e' he he'
    exact hf.1 k _ _ ((hfrom i).2 k e he).2.1 ((hfrom j).2 k e' he').2.1
  · intro k c i j e e' x y he he' hx hy
    exact hf.2 k c x y (((hfrom i).2 k e he).2.2 c x hx) (((hfrom j).2 k e' he').2.2 c y hy)

/-- **C01, outright**: for every history with distinct write times on conflicting rows, any two
    readers that merged the same set of versions built from it — whatever the order, grouping and
    repetition — hold the same status and the same value and time in every column of every key -/
theorem C01_holds (H : Hist K V) (S : List String) (hf : H.Functional) (vs : Nat → Table K V)
    (hr : ∀ i, Reach H S (vs i)) (p q : Sel.Plan) (hpq : ∀ i, i ∈ p.leaves ↔ i ∈ q.leaves) (k : K) :
    statusCell (lookup k (evalTables vs p)) = statusCell (lookup k (evalTables vs q)) ∧
    ∀ c, colCell c (lookup k (evalTables vs p)) = colCell c (lookup k (evalTables vs q)) :=
  C01_converges S vs (reach_family H S hf vs hr) p q hpq k

/-- the result of any merge plan over reachable versions is itself reachable (intermediate merged
    versions committed by other readers are versions like any other) -/
theorem reach_evalTables (H : Hist K V) (S : List String) (vs : Nat → Table K V)
    (hr : ∀ i, Reach H S (vs i)) (p : Sel.Plan) : Reach H S (evalTables vs p) := by
  induction p with
  | leaf i => exact hr i
  | node p q ihp ihq => exact Reach.merge ihp ihq

end S3db.Props.C01
