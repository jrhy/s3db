import S3db.Props.C03
/-!
# C11 — a version name denotes an immutable snapshot

Version objects are write-once (their name is a hash of their bytes) and only ever move from
`root/current/` to `root/merged/`; an open restricted to given versions (`OnlyVersions`) looks in
both places and fails if one is missing.  Hence such an open returns the same versions — with
the same immutable contents — whatever other clients did in between (vacuum excluded: C09/C10).
-/
namespace S3db.Props.C11
open S3db S3db.Proto S3db.Props.C03

/-- the registry of version objects only grows: an existing version never changes -/
theorem version_objects_immutable (s : Sys) (sched : List (Nat × Act)) (v : Vid) (ps : List Vid)
    (h : s.vers[v]? = some ps) : (run F s sched).vers[v]? = some ps :=
  (ProtoInv.run_later s sched).vers_get h

/-- **re-reading a version later gives the same version**: any versions that were stored when the
    name was taken can be opened by name after any further schedule of any clients -/
theorem historic_open_stable (s : Sys) (h : Reachable s) (sched : List (Nat × Act)) (vs : List Vid)
    (hvs : ∀ v, v ∈ vs → v ∈ s.stored) :
    openOnly F (run F s sched).bucket vs = some vs := by
  apply ProtoInv.openOnly_of_mem
  intro v hv
  exact (ProtoInv.inv_run h.inv sched).g.stored_sub v ((ProtoInv.run_later s sched).stored v (hvs v hv))

/-- a restricted open never substitutes something else for a missing version: it fails -/
theorem historic_open_fails_on_missing (b : Bucket) (vs : List Vid) (v : Vid) (hv : v ∈ vs)
    (h1 : v ∉ b.current) (h2 : v ∉ b.merged) : openOnly F b vs = none := by
  unfold openOnly
  rw [ProtoInv.historicLocs_eq, if_neg]
  rw [List.all_eq_true]
  intro h
  have := h v hv
  simp [Bucket.has, h1, h2] at this

/-- the empty version list names the empty snapshot, at any later time -/
theorem empty_version_is_empty (b : Bucket) : openOnly F b [] = some [] :=
  ProtoInv.openOnly_of_mem b [] nofun

theorem version_facts :
    F.nameIsHashOfStoredBytes = true ∧ F.historicCond = "opts.OnlyVersions != nil" ∧
    F.historicFailsOnMissing = true ∧ F.historicLoadsFrom = ["current", "merged"] ∧
    F.loadErrorSkipCond = "errors.As(err, &ae) && ae.Code() == s3.ErrCodeNoSuchKey && skipUnreadable" ∧
    F.emptyVersionForgotten = true :=
  ⟨rfl, rfl, rfl, rfl, rfl, rfl⟩

end S3db.Props.C11
