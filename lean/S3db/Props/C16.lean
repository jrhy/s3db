import S3db.Model.Codec
import S3db.Gen.Facts
/-!
# C16 — every committed version is complete and well-formed on its own (codec part)

Every stored node decodes to exactly what was encoded: keys, all four fields of every entry,
and the child links *including absent ones*.  Stated for the **generated** facts.  Completeness
of a version (all nodes stored before the version object) is `C04.nodes_before_root`; immutability
of stored objects is `C11.version_facts` (names are hashes of the bytes) plus the request-log
oracle; "a no-op commit writes nothing" is checked on the request log by the `sql` stream.
-/
namespace S3db.Props.C16
open S3db S3db.Codec

abbrev F : Facts := S3db.Gen.facts

variable {R : Type}

/-- what the codec copies, as read from the source; the round trips below rest on exactly this -/
theorem codec_facts :
    F.marshalNilLinkAs = "emptyString" ∧ F.unmarshalEmptyLinkAs = "nil" ∧ F.codecKeysAndSizes = true ∧
    F.marshalFields = ["ModEpochNanos<-ModEpochNanos", "PreviousRoot<-PreviousRoot", "TombstoneSinceEpochNanos<-TombstoneSinceEpochNanos", "Value<-row"] ∧
    F.unmarshalFields = ["ModEpochNanos<-ModEpochNanos", "PreviousRoot<-PreviousRoot", "TombstoneSinceEpochNanos<-TombstoneSinceEpochNanos", "Value<-Value"] :=
  ⟨rfl, rfl, rfl, rfl, rfl⟩

theorem entry_roundtrip (e : Entry R) : unmarshalEntry F (marshalEntry F e) = e := by
  obtain ⟨_, _, _, hm, hu⟩ := codec_facts
  simp [unmarshalEntry, marshalEntry, copies, hm, hu]

theorem link_roundtrip (l : Option String) (h : l ≠ some "") : unmarshalLink F (marshalLink F l) = l := by
  obtain ⟨hn, he, _⟩ := codec_facts
  cases l with
  | none => simp [marshalLink, unmarshalLink, hn, he]
  | some s =>
    have hs : s ≠ "" := fun e => h (by rw [e])
    simp [marshalLink, unmarshalLink, hs]

/-- **codec_roundtrip**: decoding what was encoded gives back the node, absent links included -/
theorem codec_roundtrip (n : Node R) (h : NodeWF n) : unmarshal F (marshal F n) = n := by
  obtain ⟨keys, values, links⟩ := n
  simp only [unmarshal, marshal, codec_facts.2.2.1, if_true, List.map_map, Node.mk.injEq, true_and]
  exact ⟨List.map_id'' entry_roundtrip values,
    (List.map_congr_left fun l hl => link_roundtrip l (h l hl)).trans (List.map_id links)⟩

/-- the number of keys, entries and links is preserved (sparse interior nodes keep their shape) -/
theorem codec_preserves_shape (n : Node R) :
    (unmarshal F (marshal F n)).values.length = n.values.length ∧
    (unmarshal F (marshal F n)).links.length = n.links.length := by
  simp [unmarshal, marshal]

/-- **every object a version refers to exists**: the flush precedes the version PUT and both are
    error-checked (`C04.nodes_before_root` is the theorem over these facts); and a commit that
    fails keeps the snapshot taken at BEGIN, which the ROLLBACK that follows restores — otherwise
    the in-memory tree keeps nodes that were marked stored although their PUT failed, and the
    next acknowledged version links to objects that do not exist -/
theorem complete_version_facts :
    F.commitOrder = ["flushNodes", "putRoot", "retireParents"] ∧ F.commitChecksErrors = true ∧
    F.retireOrder = ["putMerged", "delCurrent"] ∧ F.retireStopsOnPutError = true ∧
    F.commitKeepsSnapshotOnError = true ∧ F.rollbackRestoresSnapshot = true ∧ F.beginClonesTree = true ∧
    F.nameIsHashOfStoredBytes = true :=
  ⟨rfl, rfl, rfl, rfl, rfl, rfl, rfl, rfl⟩

/-- the defect the F1 fix removed, on the model: copying the empty string back as a link makes a
    leaf's absent child the link `""`, which the tree then tries to load -/
theorem old_unmarshal_breaks_absent_links :
    let F0 : Facts := { F with unmarshalEmptyLinkAs := "emptyString" }
    let n : Node Nat := { keys := [], values := [], links := [none, some "h1"] }
    (unmarshal F0 (marshal F0 n)).links = [some "", some "h1"] := by
  decide

/-- non-vacuity: a sparse interior node with absent and present children is well-formed -/
example : NodeWF ({ keys := [], values := [⟨5, "v1", 0, some 7⟩], links := [none, some "abc", none] } : Node Nat) := by
  intro l hl; simp at hl; rcases hl with h | h | h <;> simp [h]

end S3db.Props.C16
