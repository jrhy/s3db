import S3db.Model.KeySpec
import S3db.Gen.Key
import S3db.Lemmas.F64
import S3db.Lemmas.KeyOrder
import S3db.Model.Table
import S3db.Lemmas.TableCells
import S3db.Model.Facts
import S3db.Gen.Facts
/-!
# C07 — key order is a total order that matches SQLite, and equal keys are one key

About the **generated** `Gen.Key.keyOrder` (regenerated from key.go on every run).  The arithmetic
of exact doubles is in `S3db/Lemmas/F64.lean`, the lemmas about `compareIntReal` and about the
specification `sqliteCmp` in `S3db/Lemmas/KeyOrder.lean`.
-/
namespace S3db.Props.C07
open S3db S3db.Gen.Key

/-- the comparison the tree uses between two keys -/
def ord (a b : Val) : Option Int := keyOrder a.toSQLite (some b.toSQLite)

/-! `keyOrder` on two keys of the same storage class is that class's comparison -/

theorem ord_int_int (i j : Int) : ord (.int i) (.int j) = some (cmpInt i j) := by
  rw [← order_false (cmpInt i j)]
  exact ladder (fun c => some (order false c)) (cmpInt_range i j)
    (decide_eq_true_iff.trans (cmpInt_eq_neg_one i j).symm)
    (decide_eq_true_iff.trans (cmpInt_eq_one i j).symm)

theorem ord_int_real (i : Int) (r : F64) : ord (.int i) (.real r) = some (compareIntReal i r) := by
  rw [← order_false (compareIntReal i r)]; rfl

theorem ord_real_int (i : Int) (r : F64) :
    ord (.real r) (.int i) = some (- compareIntReal i r) := by
  rw [← order_true (compareIntReal i r)]; rfl

theorem ord_real_real (r s : F64) (hr : r.isNaN = false) (hs : s.isNaN = false) :
    ord (.real r) (.real s) = some (F64.cmpD r s) := by
  rw [← order_false (F64.cmpD r s)]
  exact ladder (fun c => some (order false c)) (F64.cmpD_range r s hr hs) (F64.lt_iff r s hr hs)
    (F64.gt_iff r s hr hs)

theorem ord_text_text (s t : Bytes) : ord (.text s) (.text t) = some (Bytes.cmp s t) := by
  rw [← order_false (Bytes.cmp s t)]
  exact ladder (fun c => some (order false c)) (Bytes.cmp_range s t) (Bytes.lt_iff s t)
    ((Bytes.lt_iff t s).trans (by rw [Bytes.cmp_antisymm s t]; omega))

theorem ord_blob_blob (s t : Bytes) : ord (.blob s) (.blob t) = some (Bytes.cmp s t) := by
  rw [← order_false (Bytes.cmp s t)]; rfl

/-- **the generated order is SQLite's order**, for every admissible pair (full int64 range,
    every non-NaN double incl. ±0, ±inf, subnormals, values beyond 2^53, every byte string) -/
theorem order_matches_sqlite (a b : Val) (ha : KeyOK a) (hb : KeyOK b) :
    ord a b = some (sqliteCmp a b) := by
  cases a <;> cases b
  case int.int i j => exact ord_int_int i j
  case int.real i r => rw [ord_int_real, compareIntReal_spec i ha r hb]; rfl
  case real.int r j =>
    rw [ord_real_int, compareIntReal_spec j hb r ha, ← F64.cmpD_antisymm _ _ ha.2 rfl]; rfl
  case real.real r s => exact ord_real_real r s ha.2 hb.2
  case text.text s t => exact ord_text_text s t
  case blob.blob s t => exact ord_blob_blob s t
  -- NULL is no key; on two keys of different classes both sides compute
  all_goals first | exact ha.elim | exact hb.elim | rfl

/-! `sqliteCmp` is a total preorder on admissible keys: by `sqliteCmp_lex` it is a lexicographic
    combination of `cmpInt`, `F64.cmpD` and `Bytes.cmp`, and each law passes through `lex` -/

theorem sqliteCmp_range (a b : Val) (ha : KeyOK a) (hb : KeyOK b) :
    sqliteCmp a b = -1 ∨ sqliteCmp a b = 0 ∨ sqliteCmp a b = 1 := by
  rw [sqliteCmp_lex a b ha.ne_null hb.ne_null]
  exact lex_range (cmpInt_range _ _)
    (lex_range (F64.cmpD_range _ _ ha.num_notNaN hb.num_notNaN) (Bytes.cmp_range _ _))

theorem sqliteCmp_refl (a : Val) (ha : KeyOK a) : sqliteCmp a a = 0 := by
  rw [sqliteCmp_lex a a ha.ne_null ha.ne_null, cmpInt_self, F64.cmpD_refl _ ha.num_notNaN,
    Bytes.cmp_refl]
  rfl

theorem sqliteCmp_antisymm (a b : Val) (ha : KeyOK a) (hb : KeyOK b) :
    sqliteCmp a b = - sqliteCmp b a := by
  rw [sqliteCmp_lex a b ha.ne_null hb.ne_null, sqliteCmp_lex b a hb.ne_null ha.ne_null,
    cmpInt_antisymm, F64.cmpD_antisymm _ _ ha.num_notNaN hb.num_notNaN, Bytes.cmp_antisymm a.bytes,
    lex_neg, lex_neg]

/-- transitivity, in the form that covers `<`, `=` and `≤` at once -/
theorem sqliteCmp_trans (a b c : Val) (ha : KeyOK a) (hb : KeyOK b) (hc : KeyOK c)
    (h1 : sqliteCmp a b ≤ 0) (h2 : sqliteCmp b c ≤ 0) : sqliteCmp a c ≤ 0 ∧
      (sqliteCmp a c = 0 → sqliteCmp a b = 0 ∧ sqliteCmp b c = 0) := by
  rw [sqliteCmp_lex a b ha.ne_null hb.ne_null] at h1 ⊢
  rw [sqliteCmp_lex b c hb.ne_null hc.ne_null] at h2 ⊢
  rw [sqliteCmp_lex a c ha.ne_null hc.ne_null]
  exact lex_trans (cmpInt_trans _ _ _)
    (lex_trans (F64.cmpD_trans _ _ _ ha.num_notNaN hb.num_notNaN hc.num_notNaN)
      (Bytes.cmp_trans _ _ _)) h1 h2

/-- equal only for equal values: same storage class rank, and identical integers / bytes -/
theorem sqliteCmp_eq_zero (a b : Val) (ha : KeyOK a) (hb : KeyOK b) (h : sqliteCmp a b = 0) :
    a.rank = b.rank ∧
    (∀ i j, a = .int i → b = .int j → i = j) ∧
    (∀ s t, a = .text s → b = .text t → s = t) ∧
    (∀ s t, a = .blob s → b = .blob t → s = t) := by
  rw [sqliteCmp_lex a b ha.ne_null hb.ne_null, lex_eq_zero, lex_eq_zero, cmpInt_eq_zero,
    Bytes.cmp_eq_zero] at h
  refine ⟨Int.ofNat_inj.1 h.1, ?_, ?_, ?_⟩
  · rintro i j rfl rfl
    exact (cmpInt_eq_zero i j).1 ((F64.cmpD_exact i j).symm.trans h.2.1)
  · rintro s t rfl rfl
    exact h.2.2
  · rintro s t rfl rfl
    exact h.2.2

/-! corollaries for the order the code actually uses -/

theorem ord_total (a b : Val) (ha : KeyOK a) (hb : KeyOK b) :
    ∃ r, ord a b = some r ∧ ord b a = some (-r) ∧ (r = -1 ∨ r = 0 ∨ r = 1) := by
  exact ⟨sqliteCmp a b, order_matches_sqlite a b ha hb,
    by rw [order_matches_sqlite b a hb ha, sqliteCmp_antisymm b a hb ha],
    sqliteCmp_range a b ha hb⟩

theorem ord_refl (a : Val) (ha : KeyOK a) : ord a a = some 0 := by
  rw [order_matches_sqlite a a ha ha, sqliteCmp_refl a ha]

theorem ord_trans (a b c : Val) (ha : KeyOK a) (hb : KeyOK b) (hc : KeyOK c) (x y : Int)
    (h1 : ord a b = some x) (h2 : ord b c = some y) (hx : x ≤ 0) (hy : y ≤ 0) :
    ∃ z, ord a c = some z ∧ z ≤ 0 ∧ (z = 0 → x = 0 ∧ y = 0) := by
  rw [order_matches_sqlite a b ha hb] at h1
  rw [order_matches_sqlite b c hb hc] at h2
  cases h1; cases h2
  exact ⟨sqliteCmp a c, order_matches_sqlite a c ha hc, sqliteCmp_trans a b c ha hb hc hx hy⟩

/-- a NULL key cannot be ordered: the comparison panics (the callers must reject NULL first) -/
theorem null_key_panics (b : Val) : ord .null b = none ∧ ord b .null = none := by
  constructor <;> cases b <;> rfl

/-- **a second INSERT of a key that addresses a live row is a constraint failure** and leaves the
    table as it was (the statement model of `Insert`; keys of the table model are the tree's keys,
    i.e. classes of the order above) -/
theorem second_insert_refused {K V : Type} [DecidableEq K] [DecidableEq V] (t : Table.Table K V)
    (when : Int) (k : K) (vals : AList String V) (e : Table.SEntry V)
    (he : AList.lookup k t = some e) (hl : e.row.deleted = false) :
    Table.insertRow t when k vals = .error .constraintPK :=
  (Table.insertRow_error_iff t when k vals).2 ⟨e, he, Or.inl hl⟩

/-- the source facts the refusal rests on: the lookup's error is returned (a failed lookup is never
    read as "key absent"), the refusal condition is the modelled one, a NULL key is rejected first -/
theorem insert_lookup_facts :
    Gen.facts.getRowReturnsLookupError = true ∧ Gen.facts.insertRejectsNullKey = true ∧
    Gen.facts.insertRefusedCond =
      "ok && (!old.Deleted || ot.Add(old.DeleteUpdateOffset.AsDuration()).After(t))" :=
  ⟨rfl, rfl, rfl⟩

/-- the F8 witness: beyond 2^53 the integer and the real are different keys -/
example : ord (.int (2^53 + 1)) (.real (F64.ofBits 0x4340000000000000)) = some 1 := by decide

end S3db.Props.C07
