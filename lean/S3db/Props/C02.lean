import S3db.Props.C01
/-!
# C02 — conflicts resolve as documented: per-column last-write-wins, sticky deletes

Every statement contributes *cells* for its key: INSERT a status `(t, live)` and every column
`@t`; DELETE a status `(t, deleted)`; UPDATE the assigned columns `@t` (and no new status: it
re-states the insert time of the row it saw).  The `local_*` theorems show that executing a
statement merges exactly those cells into the stored row; `C01.cells_of_plan` shows that
merging versions merges cells; so every cell of every version is the selection over the
statements it has seen, and `status_latest` / `column_latest` say which one that is.
-/
namespace S3db.Props.C02
open S3db S3db.AList S3db.Row S3db.Table S3db.Props.C01

variable {K V : Type} [DecidableEq K] [DecidableEq V]
set_option linter.unusedSectionVars false

/-- each row's status is decided by the INSERT or DELETE with the greatest time -/
theorem status_latest (v : Nat → Option Status)
    (hR : ∀ i j x y, v i = some x → v j = some y → StatusR x y)
    (p : Sel.Plan) (s : Status) (h : Sel.evalAt selStatus v p = some s) :
    (∃ i ∈ p.leaves, v i = some s) ∧ ∀ i ∈ p.leaves, ∀ s', v i = some s' → s'.dut ≤ s.dut := by
  obtain ⟨hex, hd⟩ := Sel.evalAt_some statusLaws hR p s h
  exact ⟨hex, fun i hi s' hs' => Sel.le_of_latest_eq_left (t := Status.dut) (hd i hi s' hs')⟩

/-- each column holds the assignment with the greatest time; an older write never overrides a
    newer one -/
theorem column_latest (v : Nat → Option (ACol V))
    (hR : ∀ i j x y, v i = some x → v j = some y → ColR x y)
    (p : Sel.Plan) (x : ACol V) (h : Sel.evalAt selCol v p = some x) :
    (∃ i ∈ p.leaves, v i = some x) ∧ ∀ i ∈ p.leaves, ∀ y, v i = some y → y.t ≤ x.t := by
  obtain ⟨hex, hd⟩ := Sel.evalAt_some colLaws hR p x h
  exact ⟨hex, fun i hi y hy => Sel.le_of_latest_eq_left (t := ACol.t) (hd i hi y hy)⟩

/-- a DELETE keeps the row absent whatever the columns hold — in particular against UPDATEs
    carrying a later write time — until an INSERT with a later time -/
theorem delete_sticky (t : Table K V) (k : K) (e : SEntry V) (h : lookup k t = some e)
    (hd : e.row.status.deleted = true) : visibleRow t k = none := by
  have hd' : e.row.deleted = true := hd
  rw [visibleRow_eq, h]
  simp [visible, hd']

theorem local_insert (S : List String) (t t' : Table K V) (when : Int) (k : K) (vals : AList String V)
    (hc : Covers S vals) (ht : TableInv S t) (h : insertRow t when k vals = .ok t') :
    statusCell (lookup k t') = Sel.selOpt selStatus (statusCell (lookup k t)) (some ⟨when, false⟩) ∧
    (∀ c, colCell c (lookup k t') =
      Sel.selOpt selCol (colCell c (lookup k t)) ((lookup c vals).map fun v => ⟨v, when⟩)) ∧
    (∀ k', k' ≠ k → lookup k' t' = lookup k' t) := by
  rw [(insertRow_ok h).1]
  refine ⟨?_, fun c => ?_, fun k' hk => lookup_insert_ne (Ne.symm hk) _ _⟩ <;> rw [lookup_insert_self]
  · exact mergeInto_status ..
  · rw [← lookup_stamp]
    exact mergeInto_col (ht.2 k) when (rowInv_insDelta S when vals hc) c

/-- an INSERT is refused exactly when the key is live, or deleted later than the insert's time -/
theorem insert_refused_iff (t : Table K V) (when : Int) (k : K) (vals : AList String V) :
    insertRow t when k vals = .error .constraintPK ↔
      ∃ e, lookup k t = some e ∧ (e.row.deleted = false ∨ e.row.dut > when) :=
  insertRow_error_iff t when k vals

set_option linter.unusedVariables false in
theorem local_update (S : List String) (t : Table K V) (when : Int) (k : K) (vals : AList String V)
    (ht : TableInv S t) (e : SEntry V) (he : lookup k t = some e) (hl : e.row.deleted = false) :
    statusCell (lookup k (updateRow t when k vals)) = statusCell (lookup k t) ∧
    (∀ c, colCell c (lookup k (updateRow t when k vals)) =
      Sel.selOpt selCol (colCell c (lookup k t)) ((lookup c vals).map fun v => ⟨v, when⟩)) ∧
    (∀ k', k' ≠ k → lookup k' (updateRow t when k vals) = lookup k' t) := by
  rw [updateRow_live he hl]
  refine ⟨?_, fun c => ?_, fun k' hk => lookup_insert_ne (Ne.symm hk) _ _⟩ <;> rw [lookup_insert_self, he]
  · exact congrArg some (mergeRows_updDelta_status _ hl when vals)
  · exact mergeRows_updDelta_col _ hl when vals c

/-- an UPDATE of a key that is absent or deleted changes nothing -/
theorem update_absent_noop (t : Table K V) (when : Int) (k : K) (vals : AList String V)
    (h : visibleRow t k = none) : updateRow t when k vals = t := by
  refine (updateRow_cases t when k vals).resolve_right fun ⟨e, he, hl⟩ => ?_
  rw [visibleRow_eq, he] at h
  simp [visible, hl] at h

theorem local_delete (S : List String) (t : Table K V) (when : Int) (k : K) (ht : TableInv S t) :
    statusCell (lookup k (deleteRow t when k)) = Sel.selOpt selStatus (statusCell (lookup k t)) (some ⟨when, true⟩) ∧
    (∀ c, colCell c (lookup k (deleteRow t when k)) = colCell c (lookup k t)) ∧
    (∀ k', k' ≠ k → lookup k' (deleteRow t when k) = lookup k' t) := by
  rw [deleteRow_eq]
  refine ⟨?_, fun c => ?_, fun k' hk => lookup_insert_ne (Ne.symm hk) _ _⟩ <;> rw [lookup_insert_self]
  · exact mergeInto_status ..
  · exact (mergeInto_col (ht.2 k) when (rowInv_delDelta S when) c).trans (Sel.selOpt_none_right ..)

/-- the statement functions as the model follows them, read from the source on this run: the
    refusal condition of INSERT, the UPDATE delta keeping the row's insert time, the merged row
    stored under the later of the two times, and the glue that passes only assigned columns -/
theorem statement_facts :
    S3db.Gen.facts.insertRefusedCond = "ok && (!old.Deleted || ot.Add(old.DeleteUpdateOffset.AsDuration()).After(t))" ∧
    S3db.Gen.facts.statementsMergeAndStoreAsExpected = true ∧
    S3db.Gen.facts.columnHonoursNoChange = true ∧ S3db.Gen.facts.valuesSkipNoChange = true :=
  ⟨rfl, rfl, rfl, rfl⟩

end S3db.Props.C02
