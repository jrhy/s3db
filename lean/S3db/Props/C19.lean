import S3db.Model.World
import S3db.Gen.Facts
/-!
# C19 — independent connections can be used from different threads (logic part)

`step_effect`: all a statement can do is rebind or drop the table it names, store under a prefix,
or set its own connection's attributes; so it leaves the attributes of every other connection
(`attrs_frame`) and every table it does not name (`table_frame`) untouched.  `steps_commute`:
statements of different connections on different tables and prefixes commute — so any
interleaving of independent streams is equivalent to running the connections one after another.
That the shared parts are only touched under their mutex is the fact `sharedGlobalsLocked`
(re-extracted on every run); data races proper are for the race detector (`race` stream).
-/
namespace S3db.Props.C19
open S3db S3db.AList S3db.World

abbrev F : Facts := S3db.Gen.facts

/-- everything a statement `s` of connection `c` can do to the world `w`: nothing (also when it is
    refused), rebind or drop the table it names, store under a prefix, set `c`'s attributes -/
inductive Effect (c : Nat) (s : Stmt) (w : W) : W → Prop
  | none : Effect c s w w
  | bind (n t) : s.table = some n → Effect c s w { w with registry := insert n t w.registry }
  | drop (n) : s = .drop n → Effect c s w { w with registry := erase n w.registry }
  | store (p r) : Effect c s w { w with buckets := insert p r w.buckets }
  | attrs (a) : Effect c s w { w with attrs := insert c a w.attrs }

theorem step_effect (w : W) (c : Nat) (s : Stmt) : Effect c s w (step w c s).1 := by
  -- the refused branches change nothing; one successful branch per statement remains
  cases s <;> simp only [step] <;> (repeat' split) <;> try exact .none
  · exact .bind _ _ rfl
  · exact .bind _ _ rfl
  · exact .store ..
  · exact .bind _ _ rfl
  · exact .attrs _
  · exact .drop _ rfl

/-- a connection's deadline and write_time are changed only by its own statements -/
theorem attrs_frame (w : W) (c : Nat) (s : Stmt) (c' : Nat) (h : c' ≠ c) :
    lookup c' (step w c s).1.attrs = lookup c' w.attrs := by
  have e := step_effect w c s
  generalize (step w c s).1 = w' at e ⊢
  cases e with
  | attrs a => exact lookup_insert_ne h.symm ..
  | _ => rfl

/-- a statement changes no table other than the one it names -/
theorem table_frame (w : W) (c : Nat) (s : Stmt) (n : String) (h : s.table ≠ some n) :
    lookup n (step w c s).1.registry = lookup n w.registry := by
  have e := step_effect w c s
  generalize (step w c s).1 = w' at e ⊢
  cases e with
  | bind m t hm => exact lookup_insert_ne (fun a : m = n => h (a ▸ hm)) ..
  | drop m hm => rw [lookup_erase, if_neg fun a : m = n => h (a ▸ hm ▸ rfl)]
  | _ => rfl

theorem registered_step (w : W) (c : Nat) (s : Stmt) (n : String) (hs : s ≠ .drop n)
    (hw : (lookup n w.registry).isSome) : (lookup n (step w c s).1.registry).isSome := by
  have e := step_effect w c s
  generalize (step w c s).1 = w' at e ⊢
  cases e with
  | bind m t hm => rw [lookup_insert]; split; rfl; exact hw
  | drop m hm => rw [lookup_erase, if_neg fun a : m = n => hs (a ▸ hm)]; exact hw
  | _ => exact hw

/-- a statement of a connection that does not own the table fails and changes nothing -/
theorem foreign_table_untouched (w : W) (c : Nat) (s : Stmt) (n : String) (t : TableSt)
    (hs : s.table = some n) (hc : ∀ p, s ≠ .create n p) (ht : lookup n w.registry = some t) (ho : t.owner ≠ c) :
    step w c s = (w, .err) := by
  cases s <;> simp only [Stmt.table, Option.some.injEq] at hs <;> try subst hs
  · exact absurd rfl (hc _)
  all_goals simp [step, ht, ho]
  · cases hs

/-- **steps_commute**: two statements of different connections that name different tables on
    different prefixes commute (same resulting world, same outcomes) -/
theorem steps_commute (w : W) (c1 c2 : Nat) (n1 n2 : String) (k1 v1 k2 v2 : Nat)
    (hn : n1 ≠ n2)
    (t1 t2 : TableSt) (h1 : lookup n1 w.registry = some t1) (h2 : lookup n2 w.registry = some t2)
    (o1 : t1.owner = c1) (o2 : t2.owner = c2) :
    Same (step (step w c1 (.insert n1 k1 v1)).1 c2 (.insert n2 k2 v2)).1
         (step (step w c2 (.insert n2 k2 v2)).1 c1 (.insert n1 k1 v1)).1 := by
  simp only [step, h1, h2, o1, o2, if_true, lookup_insert_ne hn, lookup_insert_ne hn.symm]
  exact ⟨lookup_insert_comm hn.symm _ _ _, fun _ => rfl, fun _ => rfl⟩

/-- commits of different connections to different prefixes commute as well -/
theorem commits_commute (w : W) (c1 c2 : Nat) (n1 n2 : String)
    (t1 t2 : TableSt) (h1 : lookup n1 w.registry = some t1) (h2 : lookup n2 w.registry = some t2)
    (o1 : t1.owner = c1) (o2 : t2.owner = c2) (hp : t1.prefix_ ≠ t2.prefix_) :
    Same (step (step w c1 (.commit n1)).1 c2 (.commit n2)).1
         (step (step w c2 (.commit n2)).1 c1 (.commit n1)).1 := by
  simp only [step, h1, h2, o1, o2, if_true]
  exact ⟨fun _ => rfl, fun _ => rfl, lookup_insert_comm hp.symm _ _ _⟩

theorem create_registered {w : W} {n : String} (c : Nat) (p : String)
    (h : (lookup n w.registry).isSome) : (step w c (.create n p)).2 = .err := by
  cases hl : lookup n w.registry with
  | none => exact nomatch hl ▸ h
  | some t => simp only [step, hl]

/-- **a table name is registered once**: whatever else the connections do in between (any
    statements that do not drop it), after one connection's CREATE of a name succeeded every other
    CREATE of that name is refused — check and registration are one atomic step (`registerAtomic`),
    so no interleaving lets two connections both own the name -/
theorem create_same_name_once (w : W) (c1 : Nat) (n p1 : String)
    (h1 : (step w c1 (.create n p1)).2 = .ok)
    (mid : List (Nat × Stmt)) (hmid : ∀ x ∈ mid, x.2 ≠ .drop n)
    (c2 : Nat) (p2 : String) :
    (step (mid.foldl (fun w x => (step w x.1 x.2).1) (step w c1 (.create n p1)).1) c2 (.create n p2)).2 = .err := by
  have h0 : (lookup n (step w c1 (.create n p1)).1.registry).isSome := by
    cases hl : lookup n w.registry with
    | some t => simp [step, hl] at h1
    | none => simp [step, hl, lookup_insert_self]
  -- the name stays registered through `mid`, so the second CREATE finds it
  exact create_registered _ _ <| List.foldlRecOn (motive := fun w => (lookup n w.registry).isSome) mid _ h0
    fun w hw x hx => registered_step w x.1 x.2 n (hmid x hx) hw

/-- the shared state of the process, as found in the source on this run, and that every access
    to it is under its mutex -/
theorem shared_state_facts :
    F.sharedGlobals = ["open.go:inMemoryBucket", "open.go:inMemoryS3", "vtable_common.go:tables",
      "writetime/context.go:i", "writetime/context.go:key"] ∧ F.sharedGlobalsLocked = true ∧
    F.registerAtomic = true :=
  ⟨rfl, rfl, rfl⟩

end S3db.Props.C19
