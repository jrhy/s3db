import S3db.Model.Fault
import S3db.Props.C03
import S3db.Props.C12
/-!
# C14 — storage faults surface as errors; never as wrong answers (logic part)

Panics, hangs and deadline expiry are runtime behaviour no Lean model exhibits: they are covered
by the `fault` stream (child processes with a time limit, a fault at every request index).  What
is proved is the logic of error propagation, from the source as read on this run.
-/
namespace S3db.Props.C14
open S3db S3db.Fault

abbrev F : Facts := S3db.Gen.facts

theorem skips_eq (a : Ans) (l : Bool) : skips F a l = some (a == .noSuchKey) :=
  if_pos rfl

/-- `loadRootFromAny` as read on this run: the first answer other than "no such object" decides -/
theorem loadFromAny_cons (a : Ans) (rest : List Ans) :
    loadFromAny F (a :: rest) =
      match a with
      | .found => .found
      | .noSuchKey => loadFromAny F rest
      | .error => .error := by
  cases a <;> simp [loadFromAny, skips_eq]

/-- **an error answer is never mistaken for "vacuumed"**: if any location tried before a hit
    answers with an error, loading the version fails -/
theorem load_error_surfaces (pre post : List Ans) (hpre : ∀ a ∈ pre, a = .noSuchKey) :
    loadFromAny F (pre ++ .error :: post) = .error := by
  induction pre with
  | nil => exact loadFromAny_cons ..
  | cons a pre ih =>
    rw [List.cons_append, loadFromAny_cons, hpre a List.mem_cons_self]
    exact ih fun a h => hpre a (List.mem_cons_of_mem _ h)

/-- "missing" is reported only when every location gave the well-formed "no such object" answer -/
theorem missing_only_if_all_nosuchkey (answers : List Ans) (h : loadFromAny F answers = .missing) :
    ∀ a ∈ answers, a = .noSuchKey := by
  induction answers with
  | nil => exact nofun
  | cons a rest ih =>
    rw [loadFromAny_cons] at h
    cases a with
    | found | error => cases h
    | noSuchKey => exact List.forall_mem_cons.2 ⟨rfl, ih h⟩

/-- **an open either fails or is complete**: when it succeeds, it loaded every listed version
    except those for which *every* location gave the well-formed "no such object" answer -/
theorem open_error_or_complete (skip : Bool) (vs : List (Nat × List Ans)) (loaded : List Nat)
    (h : openVersions F skip vs = .ok loaded) :
    ∀ v answers, (v, answers) ∈ vs → v ∈ loaded ∨ (∀ a ∈ answers, a = .noSuchKey) := by
  suffices ∀ p ∈ vs, p.1 ∈ loaded ∨ ∀ a ∈ p.2, a = .noSuchKey from fun v a hm => this (v, a) hm
  -- along the branches of `openVersions`: three fail, one skips a missing version, one loads
  fun_induction openVersions F skip vs generalizing loaded with
  | case1 => exact nofun
  | case2 | case3 | case6 => cases h
  | case4 v0 a0 rest hl _ ih =>
    exact List.forall_mem_cons.2 ⟨.inr (missing_only_if_all_nosuchkey a0 hl), ih loaded h⟩
  | case5 v0 a0 rest _ l hr ih =>
    cases h
    exact List.forall_mem_cons.2 ⟨.inl List.mem_cons_self,
      fun p hp => (ih l hr p hp).imp_left (List.mem_cons_of_mem _)⟩

/-- an open restricted to named versions treats even "no such object" as an error -/
theorem named_version_missing_is_error (vs : List (Nat × List Ans)) (v : Nat) (answers : List Ans)
    (hm : (v, answers) ∈ vs) (ha : loadFromAny F answers = .missing) :
    openVersions F false vs = .error := by
  have hF : F.missingSkippedOnlyIfSkipUnreadable = true := rfl
  induction vs with
  | nil => cases hm
  | cons p rest ih =>
    obtain ⟨v0, a0⟩ := p
    unfold openVersions
    rcases List.mem_cons.1 hm with hm | hm
    · cases hm
      simp [ha, hF]
    · cases loadFromAny F a0 <;> simp [ih hm, hF]

/-- no write is reported successful before its version object is stored (C03) -/
theorem no_false_ack (s : Proto.Sys) (h : C03.Reachable s) (v : Proto.Vid) (hv : v ∈ s.acked) : v ∈ s.stored :=
  C03.acked_is_stored s h v hv

/-- the propagation facts, as read from the source on this run -/
theorem fault_facts :
    F.loadAnySkipCond = "errors.As(err, &ae) && ae.Code() == s3.ErrCodeNoSuchKey" ∧
    F.loadAnyReturnsOtherErrors = true ∧ F.mergeErrorsReturned = true ∧
    F.statementErrorsPropagate = true ∧ F.changesErrorsPropagate = true ∧
    F.commitChecksErrors = true ∧ F.filterNullOperandEmpty = true ∧
    F.rollbackRestoresSnapshot = true ∧ F.commitKeepsSnapshotOnError = true :=
  ⟨rfl, rfl, rfl, rfl, rfl, rfl, rfl, rfl, rfl⟩

/-- **a vacuum that could not read a listed version deletes nothing**: if the keep pass lets the
    deletions go ahead, every listed version that did not answer "no such object" is protected —
    in particular none answered with an error -/
theorem vacuum_keep_pass_error_or_complete (vs : List (Nat × Ans)) (l : List Nat)
    (h : keepPass F vs = .kept l) :
    (∀ p, p ∈ vs → p.2 ≠ .error) ∧ (∀ p, p ∈ vs → p.2 = .found → p.1 ∈ l) := by
  suffices ∀ p ∈ vs, p.2 ≠ .error ∧ (p.2 = .found → p.1 ∈ l) from
    ⟨fun p hp => (this p hp).1, fun p hp => (this p hp).2⟩
  fun_induction keepPass F vs generalizing l with
  | case1 => exact nofun
  | case2 v rest l' hl' ih =>
    cases h
    exact List.forall_mem_cons.2 ⟨⟨nofun, fun _ => List.mem_cons_self⟩,
      fun q hq => (ih l' hl' q hq).imp_right (List.mem_cons_of_mem _ ∘ ·)⟩
  | case4 v rest ih => exact List.forall_mem_cons.2 ⟨⟨nofun, nofun⟩, ih l h⟩
  | case3 | case5 => cases h
  | case6 _ _ hn => exact absurd rfl hn

/-- the seeded variant "log and continue on any error": one failed GET and the vacuum goes ahead
    without protecting version 7 -/
theorem tolerant_keep_pass_drops_a_version :
    let F0 : Facts := { F with vacuumSkipsUnreadableListed := false }
    keepPass F0 [(7, .error), (8, .found)] = .kept [8] ∧ keepPass F [(7, .error), (8, .found)] = .error := by
  decide

theorem vacuum_fault_facts : F.vacuumSkipsUnreadableListed = true ∧ F.vacuumKeepsListedCurrent = true := ⟨rfl, rfl⟩

/-- with the tolerant variant ("try the next location on any error") a transient error on the
    first location of a retired version makes the version look vacuumed: the model shows it -/
theorem tolerant_skip_hides_a_version :
    let F0 : Facts := { F with loadAnySkipCond := "isNoSuchKey(err) || i+1 < len(persist)" }
    openVersions F0 true [(7, [.error, .noSuchKey])] = .ok [] ∧
    openVersions F true [(7, [.error, .noSuchKey])] = .error := by
  intro F0
  have hs (a : Ans) (l : Bool) : skips F0 a l = some (a == .noSuchKey || (a == .error && !l)) := by
    simp [skips, F0]
  -- the tolerant load takes the error for "vacuumed", and the open then skips the version
  have h0 : loadFromAny F0 [.error, .noSuchKey] = .missing := by
    simp only [loadFromAny, hs]
    decide
  constructor
  · rw [openVersions, h0]
    rfl
  · rw [openVersions, loadFromAny_cons]

end S3db.Props.C14
