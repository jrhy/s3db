import S3db.Lemmas.F64
import S3db.Gen.Key
/-!
# `compareIntReal` is exact, and `sqliteCmp` is lexicographic

`compareIntReal` (generated from key.go) computes the exact comparison of an int64 with a double:
the two range tests by transitivity, the rest because `int64(r)` truncates (`cmpD_exact_toInt`)
and `float64` of it does not round (`cmpD_ofInt`).  The specification `sqliteCmp` goes by storage
class, then numeric value, then bytes (`sqliteCmp_lex`).
-/
namespace S3db
open F64 Gen.Key

/-- the `if a < b … else if a > b … else …` ladder of the Go code computes the three-way
    comparison `c`, given that its two tests `p`, `q` say `c = -1` and `c = 1` -/
theorem ladder {α : Type} (f : Int → α) {c : Int} (hc : c = -1 ∨ c = 0 ∨ c = 1) {p q : Bool}
    (hp : p = true ↔ c = -1) (hq : q = true ↔ c = 1) :
    (if p = true then f (-1) else if q = true then f 1 else f 0) = f c := by
  rcases hc with rfl | rfl | rfl
  · rw [if_pos (hp.2 rfl)]
  · rw [if_neg (fun h => absurd (hp.1 h) (by decide)), if_neg (fun h => absurd (hq.1 h) (by decide))]
  · rw [if_neg (fun h => absurd (hp.1 h) (by decide)), if_pos (hq.2 rfl)]

theorem compareIntReal_fin (i : Int) (hi : InInt64 i) (s : Bool) (m : Nat) (x : Int)
    (hm : m < 2^53) : compareIntReal i (.fin s m x) = cmpD (exact i) (.fin s m x) := by
  unfold compareIntReal
  -- `ofIntLit` is `exact`: the two range tests compare `r` with the exact ±2^63
  by_cases h1 : F64.lt (.fin s m x) (ofIntLit (-9223372036854775808)) = true
  · rw [if_pos h1]
    exact (cmpD_exact_gt_of i _ _ rfl hi.1 ((lt_iff _ _ rfl rfl).1 h1)).symm
  rw [if_neg h1]
  by_cases h2 : F64.ge (.fin s m x) (ofIntLit 9223372036854775808) = true
  · rw [if_pos h2]
    exact (cmpD_exact_lt_of i _ _ rfl hi.2 ((ge_iff _ _ rfl rfl).1 h2)).symm
  rw [if_neg h2]
  obtain ⟨m', e, hm', hy⟩ := toInt_repr s m x
  rcases Int.lt_trichotomy i (toInt (.fin s m x)) with h | h | h
  · rw [cmpD_exact_toInt i s m x (Int.ne_of_lt h), cmpInt_of_lt h]
    exact if_pos (decide_eq_true h)
  · -- `int64(r)` has no more significant bits than `r`, so `float64` of it is exact
    subst h
    show (if decide _ = true then _ else if decide _ = true then _ else _) = _
    rw [if_neg (by simp), if_neg (by simp)]
    rw [← cmpD_ofInt _ m' e (by omega) hy]
    exact ladder id (cmpD_range _ _ (ofInt_notNaN _) rfl) (lt_iff _ _ (ofInt_notNaN _) rfl)
      (gt_iff _ _ (ofInt_notNaN _) rfl)
  · rw [cmpD_exact_toInt i s m x (Int.ne_of_gt h), cmpInt_of_gt h]
    show (if decide _ = true then _ else if decide _ = true then _ else _) = _
    rw [if_neg (by simpa using Int.le_of_lt h), if_pos (decide_eq_true h)]

theorem compareIntReal_spec (i : Int) (hi : InInt64 i) (r : F64) (hr : KeyOK (.real r)) :
    compareIntReal i r = cmpD (exact i) r := by
  obtain ⟨⟨n, _, hn⟩, hnan⟩ := hr
  cases r with
  | nan => cases hnan
  | inf b => cases b <;> rfl
  | fin s m x => exact compareIntReal_fin i hi s m x (ofBits_fin_bound n s m x hn.symm)

theorem order_true (c : Int) : order true c = -c := by
  unfold order
  by_cases h : c = 0 <;> simp [h]

theorem order_false (c : Int) : order false c = c := by
  unfold order; simp

/-- the numeric value of an INTEGER or REAL key, as an exact binary value (0 for the others) -/
def Val.num : Val → F64
  | .int i => exact i
  | .real r => r
  | _ => exact 0

/-- the bytes of a TEXT or BLOB key (none for the others) -/
def Val.bytes : Val → Bytes
  | .text s => s
  | .blob s => s
  | _ => []

/-- SQLite's order: storage class, then numeric value, then bytes -/
theorem sqliteCmp_lex (a b : Val) (ha : a ≠ .null) (hb : b ≠ .null) :
    sqliteCmp a b
      = lex (cmpInt a.rank b.rank) (lex (cmpD a.num b.num) (Bytes.cmp a.bytes b.bytes)) := by
  cases a <;> cases b
  case int.int i j => exact (cmpD_exact i j).symm.trans (lex_zero_right _).symm
  case int.real | real.int | real.real => exact (lex_zero_right _).symm
  -- NULL is excluded; in every other pair both sides compute
  all_goals first | contradiction | rfl

theorem KeyOK.ne_null {a : Val} (h : KeyOK a) : a ≠ .null := by
  rintro rfl; exact h

theorem KeyOK.num_notNaN {a : Val} (h : KeyOK a) : a.num.isNaN = false := by
  cases a with
  | real r => exact h.2
  | _ => rfl

theorem sqliteCmp_text (s t : Bytes) : sqliteCmp (.text s) (.text t) = Bytes.cmp s t := rfl
theorem sqliteCmp_blob (s t : Bytes) : sqliteCmp (.blob s) (.blob t) = Bytes.cmp s t := rfl

end S3db
