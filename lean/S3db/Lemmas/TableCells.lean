import S3db.Lemmas.RowMerge
/-!
# Helper lemmas: the entry merge, the tree merge and the three statements, cell by cell

A stored entry is observed through its *cells*: the status `(dut, deleted)` of its row and one
optional cell per column.  `mergeEntry` (whatever order its `mod` comparison picks) acts on each
cell as a `Sel.selOpt`; so do the three SQL statements, each of which stores its delta row merged
into the row it finds (`mergeInto`).  So cells are only ever *selected*: `RowFrom S P Q r` says that
the row `r` is SQL-shaped (`RowInv`), its status satisfies `P` and every column cell `(c, x)` it
holds satisfies `Q c x`; it is preserved by `mergeRows`, `mergeEntry`, the tree merge, and by the
rows the three statements store (`TableFrom`).  With trivial predicates this is the table invariant
of C01, with "is a cell of the history" it is `C01.reach_from`.
-/
namespace S3db.Table
open S3db S3db.AList S3db.Row
set_option linter.unusedSectionVars false

variable {K V : Type} [DecidableEq K] [DecidableEq V]

theorem mergeEntry_row (x y : SEntry V) :
    (mergeEntry x y).row = if x.mod < y.mod then mergeRows x.row y.row else mergeRows y.row x.row := rfl

theorem mergeEntry_status (x y : SEntry V) (hR : StatusR x.row.status y.row.status) :
    (mergeEntry x y).row.status = selStatus x.row.status y.row.status := by
  rw [mergeEntry_row]
  split
  · exact mergeRows_status _ _
  · rw [mergeRows_status]; exact (statusLaws.comm _ _ hR).symm

theorem mergeEntry_col (S : List String) (x y : SEntry V) (hx : RowInv S x.row) (hy : RowInv S y.row)
    (c : String)
    (hR : ∀ a b, lookup c x.row.cols = some a → lookup c y.row.cols = some b → ColR a b) :
    lookup c (mergeEntry x y).row.cols
      = Sel.selOpt selCol (lookup c x.row.cols) (lookup c y.row.cols) := by
  rw [mergeEntry_row]
  split
  · exact mergeRows_col S _ _ hx hy c
  · rw [mergeRows_col S _ _ hy hx c]
    exact (colLaws.opt.comm _ _ hR).symm

theorem visibleRow_eq (t : Table K V) (k : K) :
    visibleRow t k = (lookup k t).bind fun e => visible e.row := by
  unfold visibleRow; cases lookup k t <;> rfl

theorem visibleRow_isSome (t : Table K V) (k : K) :
    (visibleRow t k).isSome = ((lookup k t).map (·.row.status)).any (!·.deleted) := by
  rw [visibleRow_eq]
  cases lookup k t with
  | none => rfl
  | some e => cases h : e.row.deleted <;> simp [visible, ARow.status, h]

theorem visibleRow_col (t : Table K V) (k : K) (c : String) :
    (visibleRow t k).bind (lookup c) =
      if ((lookup k t).map (·.row.status)).any (!·.deleted)
      then (lookup k t).bind fun e => lookup c e.row.cols else none := by
  rw [visibleRow_eq]
  cases lookup k t with
  | none => rfl
  | some e => cases h : e.row.deleted <;> simp [visible, ARow.status, h]

/-- the row an INSERT merges in: live since `when`, every column assigned at `when` -/
def insDelta (when : Int) (vals : AList String V) : ARow V :=
  { deleted := false, dut := when, cols := stamp when vals }
/-- the row a DELETE merges in -/
def delDelta (when : Int) : ARow V := { deleted := true, dut := when, cols := [] }
/-- the row an UPDATE merges in: it re-states the insert time of the row it saw -/
def updDelta (r : ARow V) (when : Int) (vals : AList String V) : ARow V :=
  { deleted := false, dut := r.dut, cols := stamp when vals }

/-- the entry a statement at time `when` stores under its key: its delta row `d` merged into the
    stored row, if there is one -/
def mergeInto (o : Option (SEntry V)) (when : Int) (d : ARow V) : SEntry V :=
  match o with
  | some e => ⟨laterOf e.mod when, mergeRows e.row d⟩
  | none => ⟨when, d⟩

theorem insertRow_eq (t : Table K V) (when : Int) (k : K) (vals : AList String V) :
    insertRow t when k vals =
      if (lookup k t).any fun e => !e.row.deleted || decide (e.row.dut > when) then .error .constraintPK
      else .ok (insert k (mergeInto (lookup k t) when (insDelta when vals)) t) := by
  unfold insertRow
  cases lookup k t <;> rfl

theorem insertRow_ok {t t' : Table K V} {when : Int} {k : K} {vals : AList String V}
    (h : insertRow t when k vals = .ok t') :
    t' = insert k (mergeInto (lookup k t) when (insDelta when vals)) t ∧
    ∀ e, lookup k t = some e → e.row.deleted = true ∧ e.row.dut ≤ when := by
  rw [insertRow_eq] at h
  split at h
  · cases h
  · next hc =>
    refine ⟨(Except.ok.inj h).symm, fun e he => ?_⟩
    simpa [he, Int.not_lt] using hc

theorem insertRow_error_iff (t : Table K V) (when : Int) (k : K) (vals : AList String V) :
    insertRow t when k vals = .error .constraintPK ↔
      ∃ e, lookup k t = some e ∧ (e.row.deleted = false ∨ e.row.dut > when) := by
  rw [insertRow_eq]
  split <;> next hc =>
    simp only [Option.any_eq_true, Bool.or_eq_true, Bool.not_eq_true', decide_eq_true_eq] at hc
    simp only [hc, reduceCtorEq]

theorem updateRow_live {t : Table K V} {k : K} {e : SEntry V} (he : lookup k t = some e)
    (hl : e.row.deleted = false) (when : Int) (vals : AList String V) :
    updateRow t when k vals = insert k (mergeInto (some e) when (updDelta e.row when vals)) t := by
  unfold updateRow
  simp only [he, hl]
  rfl

theorem updateRow_cases (t : Table K V) (when : Int) (k : K) (vals : AList String V) :
    updateRow t when k vals = t ∨ ∃ e, lookup k t = some e ∧ e.row.deleted = false := by
  unfold updateRow
  split
  · next e he =>
    split
    · exact .inl rfl
    · next hl => exact .inr ⟨e, he, Bool.eq_false_iff.2 hl⟩
  · exact .inl rfl

theorem deleteRow_eq (t : Table K V) (when : Int) (k : K) :
    deleteRow t when k = insert k (mergeInto (lookup k t) when (delDelta when)) t := by
  unfold deleteRow
  cases lookup k t <;> rfl

theorem mergeInto_status (o : Option (SEntry V)) (when : Int) (d : ARow V) :
    some (mergeInto o when d).row.status = Sel.selOpt selStatus (o.map (·.row.status)) (some d.status) := by
  cases o with
  | none => rfl
  | some e => exact congrArg some (mergeRows_status _ _)

/-- INSERT and DELETE: the stored row and the delta are both SQL-shaped, so nothing is hidden -/
theorem mergeInto_col {S : List String} {o : Option (SEntry V)} (ho : ∀ e, o = some e → RowInv S e.row)
    (when : Int) {d : ARow V} (hd : RowInv S d) (c : String) :
    lookup c (mergeInto o when d).row.cols
      = Sel.selOpt selCol (o.bind fun e => lookup c e.row.cols) (lookup c d.cols) := by
  cases o with
  | none => exact (Sel.selOpt_none_left ..).symm
  | some e => exact mergeRows_col S _ _ (ho e rfl) hd c

theorem mergeRows_updDelta_status (r : ARow V) (hl : r.deleted = false) (when : Int) (vals : AList String V) :
    (mergeRows r (updDelta r when vals)).status = r.status := by
  rw [mergeRows_status]
  simp [selStatus, ARow.status, updDelta, hl]

/-- UPDATE: the delta alone is not SQL-shaped, but it is live like the row it saw, so nothing is
    hidden either -/
theorem mergeRows_updDelta_col (r : ARow V) (hl : r.deleted = false) (when : Int) (vals : AList String V)
    (c : String) :
    lookup c (mergeRows r (updDelta r when vals)).cols
      = Sel.selOpt selCol (lookup c r.cols) ((lookup c vals).map fun v => ⟨v, when⟩) := by
  rw [mergeRows_col_nohide _ _ (by simp [status, updDelta, hl]), ← lookup_stamp]
  rfl

theorem updateRow_live_entry {t : Table K V} {k : K} {e : SEntry V} (he : lookup k t = some e)
    (hl : e.row.deleted = false) (when : Int) (vals : AList String V) :
    ∃ e1, lookup k (updateRow t when k vals) = some e1 ∧ e1.row.deleted = false := by
  refine ⟨_, by rw [updateRow_live he hl, lookup_insert_self], ?_⟩
  exact (congrArg Status.deleted (mergeRows_updDelta_status e.row hl when vals)).trans hl

theorem insertRow_ok_live {t t' : Table K V} {when : Int} {k : K} {vals : AList String V}
    (h : insertRow t when k vals = .ok t') : ∃ e, lookup k t' = some e ∧ e.row.deleted = false := by
  obtain ⟨rfl, hold⟩ := insertRow_ok h
  refine ⟨_, lookup_insert_self .., ?_⟩
  cases he : lookup k t with
  | none => rfl
  | some e =>
    -- the stored row was deleted not later than `when`: the delta decides the status
    show (mergeRows e.row (insDelta when vals)).deleted = false
    rw [mergeRows_deleted]
    exact if_neg (Int.not_lt.2 (hold e he).2)

theorem rowInv_insDelta (S : List String) (when : Int) (vals : AList String V)
    (hc : ∀ c, c ∈ S ↔ c ∈ keys vals) : RowInv S (insDelta when vals) := by
  refine ⟨fun c h => (hc c).2 ?_, fun _ c hcS => ?_⟩ <;> simp only [insDelta, lookup_stamp] at *
  · exact mem_keys_of_ne_none fun hn => h (by rw [hn]; rfl)
  · cases hv : lookup c vals with
    | none => exact absurd ((hc c).1 hcS) (lookup_eq_none_iff.1 hv)
    | some v => exact ⟨_, rfl, Int.le_refl _⟩

theorem rowInv_delDelta (S : List String) (when : Int) : RowInv (V := V) S (delDelta when) :=
  ⟨fun _ h => absurd rfl h, fun h => nomatch h⟩

/-- an SQL-shaped row all of whose cells satisfy the given predicates -/
def RowFrom (S : List String) (P : Status → Prop) (Q : String → ACol V → Prop) (r : ARow V) : Prop :=
  RowInv S r ∧ P r.status ∧ ∀ c x, lookup c r.cols = some x → Q c x

variable {S : List String} {P : Status → Prop} {Q : String → ACol V → Prop}

theorem rowFrom_mergeRows {r1 r2 : ARow V} (h1 : RowFrom S P Q r1) (h2 : RowFrom S P Q r2) :
    RowFrom S P Q (mergeRows r1 r2) := by
  refine ⟨rowInv_mergeRows S r1 r2 h1.1 h2.1, ?_, fun c x hx => ?_⟩
  · rw [mergeRows_status]
    rcases statusLaws.pick r1.status r2.status with e | e <;> rw [e]
    · exact h1.2.1
    · exact h2.2.1
  · rw [mergeRows_col S r1 r2 h1.1 h2.1] at hx
    exact (Sel.selOpt_pick colLaws hx).elim (h1.2.2 c x) (h2.2.2 c x)

theorem rowFrom_mergeEntry (x y : SEntry V) (hx : RowFrom S P Q x.row) (hy : RowFrom S P Q y.row) :
    RowFrom S P Q (mergeEntry x y).row := by
  rw [mergeEntry_row]
  split
  · exact rowFrom_mergeRows hx hy
  · exact rowFrom_mergeRows hy hx

theorem rowFrom_mergeInto {o : Option (SEntry V)} (ho : ∀ e, o = some e → RowFrom S P Q e.row)
    (when : Int) {d : ARow V} (hd : RowFrom S P Q d) : RowFrom S P Q (mergeInto o when d).row := by
  cases o with
  | none => exact hd
  | some e => exact rowFrom_mergeRows (ho e rfl) hd

theorem of_lookup_stamp {when : Int} {vals : AList String V} {c : String} {x : ACol V}
    (hv : ∀ c v, lookup c vals = some v → Q c ⟨v, when⟩)
    (hx : (lookup c vals).map (fun v => (⟨v, when⟩ : ACol V)) = some x) : Q c x := by
  obtain ⟨v, hl, rfl⟩ := Option.map_eq_some_iff.1 hx
  exact hv c v hl

theorem rowFrom_insDelta (when : Int) (vals : AList String V)
    (hc : ∀ c, c ∈ S ↔ c ∈ keys vals) (hs : P ⟨when, false⟩)
    (hv : ∀ c v, lookup c vals = some v → Q c ⟨v, when⟩) : RowFrom S P Q (insDelta when vals) :=
  ⟨rowInv_insDelta S when vals hc, hs, fun c _ hx => of_lookup_stamp hv (lookup_stamp when vals c ▸ hx)⟩

theorem rowFrom_delDelta (when : Int) (hs : P ⟨when, true⟩) : RowFrom S P Q (delDelta when) :=
  ⟨rowInv_delDelta S when, hs, fun _ _ h => nomatch h⟩

theorem rowFrom_updateMerge {r : ARow V} (hr : RowFrom S P Q r) (hl : r.deleted = false)
    (when : Int) (vals : AList String V) (hc : ∀ c, c ∈ keys vals → c ∈ S)
    (hv : ∀ c v, lookup c vals = some v → Q c ⟨v, when⟩) :
    RowFrom S P Q (mergeRows r (updDelta r when vals)) := by
  have hs := mergeRows_updDelta_status r hl when vals
  refine ⟨⟨fun c hne => ?_, fun _ c hcS => ?_⟩, hs ▸ hr.2.1, fun c x hx => ?_⟩
  · rw [mergeRows_updDelta_col r hl] at hne
    by_cases e1 : lookup c r.cols = none
    · exact hc c (mem_keys_of_ne_none fun hn => hne (by rw [e1, hn]; rfl))
    · exact hr.1.1 c e1
  · rw [mergeRows_updDelta_col r hl, show (mergeRows r (updDelta r when vals)).dut = r.dut from
      congrArg Status.dut hs]
    exact Sel.selOpt_latest_ge_left (hr.1.2 hl c hcS) _
  · rw [mergeRows_updDelta_col r hl] at hx
    exact (Sel.selOpt_pick colLaws hx).elim (hr.2.2 c x) (of_lookup_stamp hv)

/-- a table all of whose cells satisfy per-key predicates -/
def TableFrom (S : List String) (P : K → Status → Prop) (Q : K → String → ACol V → Prop)
    (t : Table K V) : Prop :=
  NodupKeys t ∧ ∀ k e, lookup k t = some e → RowFrom S (P k) (Q k) e.row

variable {PK : K → Status → Prop} {QK : K → String → ACol V → Prop}

theorem tableFrom_nil : TableFrom S PK QK ([] : Table K V) :=
  ⟨nodupKeys_nil, fun _ _ he => nomatch he⟩

theorem tableFrom_store {t : Table K V} (ht : TableFrom S PK QK t) (k0 : K) (e0 : SEntry V)
    (h0 : RowFrom S (PK k0) (QK k0) e0.row) : TableFrom S PK QK (insert k0 e0 t) := by
  refine ⟨nodupKeys_insert ht.1, ?_⟩
  intro k e he
  rw [lookup_insert] at he
  split at he
  · rename_i hk; subst hk; cases he; exact h0
  · exact ht.2 k e he

theorem tableFrom_insert {t t' : Table K V} {when : Int} {k : K} {vals : AList String V}
    (ht : TableFrom S PK QK t) (hc : ∀ c, c ∈ S ↔ c ∈ keys vals) (hs : PK k ⟨when, false⟩)
    (hv : ∀ c v, lookup c vals = some v → QK k c ⟨v, when⟩)
    (h : insertRow t when k vals = .ok t') : TableFrom S PK QK t' := by
  rw [(insertRow_ok h).1]
  exact tableFrom_store ht k _ (rowFrom_mergeInto (ht.2 k) when (rowFrom_insDelta when vals hc hs hv))

theorem tableFrom_update {t : Table K V} (when : Int) (k : K) (vals : AList String V)
    (ht : TableFrom S PK QK t) (hc : ∀ c, c ∈ keys vals → c ∈ S)
    (hv : ∀ c v, lookup c vals = some v → QK k c ⟨v, when⟩) :
    TableFrom S PK QK (updateRow t when k vals) := by
  rcases updateRow_cases t when k vals with h | ⟨e, he, hl⟩
  · rw [h]; exact ht
  · rw [updateRow_live he hl]
    exact tableFrom_store ht k _ (rowFrom_updateMerge (ht.2 k e he) hl when vals hc hv)

theorem tableFrom_delete {t : Table K V} (when : Int) (k : K)
    (ht : TableFrom S PK QK t) (hs : PK k ⟨when, true⟩) :
    TableFrom S PK QK (deleteRow t when k) := by
  rw [deleteRow_eq]
  exact tableFrom_store ht k _ (rowFrom_mergeInto (ht.2 k) when (rowFrom_delDelta when hs))

theorem tableFrom_merge {a g : Table K V} (ha : TableFrom S PK QK a) (hg : TableFrom S PK QK g) :
    TableFrom S PK QK (mergeTables a g) := by
  refine ⟨Kv.nodupKeys_mergeTrees _ _ ha.1, fun k e he => ?_⟩
  rw [mergeTables, Kv.lookup_mergeTrees mergeEntry g hg.1 a k] at he
  exact Kv.mergeOpt_closed (P := fun e => RowFrom S (PK k) (QK k) e.row) rowFrom_mergeEntry
    (ha.2 k) (hg.2 k) e he

end S3db.Table
