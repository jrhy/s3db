import S3db.Model.Schema
/-!
# Lemmas about the table-definition model (`Model/Schema.lean`)

The parse only moves upwards in a preorder `Le` (`errs` and `pk.length` never decrease, `failed` is
sticky) and `convert` rejects an upward-closed set `Bad` outright: so an item that puts the parse
there (`Item.Bad`) rejects the whole definition wherever it stands.

Core Lean only.
-/
namespace S3db.Schema

/-- `q` is at least as far along (and at least as broken) as `p` -/
def Le (p q : Parsed) : Prop :=
  p.errs ≤ q.errs ∧ (p.failed = true → q.failed = true) ∧ p.pk.length ≤ q.pk.length

theorem Le.refl (p : Parsed) : Le p p := ⟨Nat.le_refl _, id, Nat.le_refl _⟩

theorem Le.trans {p q r : Parsed} (h1 : Le p q) (h2 : Le q r) : Le p r :=
  ⟨Nat.le_trans h1.1 h2.1, fun h => h2.2.1 (h1.2.1 h), Nat.le_trans h1.2.2 h2.2.2⟩

/-- the states `convert` rejects before looking at the columns -/
def Bad (p : Parsed) : Prop := p.failed = true ∨ p.errs > 0 ∨ p.pk.length > 1

theorem Bad.mono {p q : Parsed} (hb : Bad p) (h : Le p q) : Bad q :=
  hb.imp h.2.1 (.imp (Nat.lt_of_lt_of_le · h.1) (Nat.lt_of_lt_of_le · h.2.2))

theorem foldl_le {α : Type} {f : Parsed → α → Parsed} (hf : ∀ p a, Le p (f p a)) (l : List α)
    (p : Parsed) : Le p (l.foldl f p) := by
  induction l generalizing p with
  | nil => exact Le.refl p
  | cons a l ih => exact Le.trans (hf p a) (ih _)

/-- one step that always lands in `Bad`, anywhere in the list, spoils the whole fold -/
theorem foldl_bad {α : Type} {f : Parsed → α → Parsed} (hf : ∀ p a, Le p (f p a)) {l : List α}
    {a : α} (ha : a ∈ l) (h : ∀ q, Bad (f q a)) (p : Parsed) : Bad (l.foldl f p) := by
  obtain ⟨pre, post, rfl⟩ := List.append_of_mem ha
  rw [List.foldl_append, List.foldl_cons]
  exact (h _).mono (foldl_le hf post _)

theorem applyCons_le (n : String) (p : Parsed) (c : Cons) : Le p (applyCons n p c) := by
  cases c <;> simp only [applyCons, Le]
  · split <;> simp_all   -- `PRIMARY KEY`: the key was empty and is set, or an error is added
  all_goals simp

theorem parseItem_le (p : Parsed) (it : Item) : Le p (parseItem p it) := by
  cases it with
  | col n t cs =>
    refine Le.trans ?_ (foldl_le (applyCons_le n) cs _)
    cases t <;> simp [Le]
  | tablePK ns =>
    unfold parseItem
    by_cases hp : p.pk.isEmpty = true <;> simp [Le, hp] <;> exact fun h => .inl h

theorem parse_le (items : List Item) : Le (items.foldl parseItem {}) (parse items) :=
  ⟨Nat.le_refl _, fun h => by simp [parse, h], Nat.le_refl _⟩

/-- an unknown type word, `UNIQUE`, a constraint the grammar does not know, or a `PRIMARY KEY (…)`
    clause that does not name exactly one column -/
def Item.Bad : Item → Prop
  | .col _ knownType cs => knownType = false ∨ .unique ∈ cs ∨ .other ∈ cs
  | .tablePK ns => ns.length ≠ 1

theorem parseItem_bad (q : Parsed) (it : Item) (h : it.Bad) : Bad (parseItem q it) := by
  cases it with
  | col n t cs =>
    rcases h with rfl | h | h
    · exact Bad.mono (.inl rfl) (foldl_le (applyCons_le n) cs _)
    · exact foldl_bad (applyCons_le n) h (fun _ => .inr (.inl (Nat.succ_pos _))) _
    · exact foldl_bad (applyCons_le n) h (fun _ => .inl rfl) _
  | tablePK ns =>
    rcases Nat.lt_or_gt_of_ne h with h | h
    · exact .inl (by simp [parseItem, List.length_eq_zero_iff.1 (Nat.lt_one_iff.1 h)])
    · refine .inr (.inr ?_)
      simp only [parseItem]
      split <;> simp <;> omega

theorem convert_none_of_bad (items : List Item) (h : Bad (parse items)) : convert items = none := by
  rcases h with h | h | h <;> simp [convert, h]

theorem convert_none_of_bad_item {items : List Item} {it : Item} (hi : it ∈ items) (h : it.Bad) :
    convert items = none :=
  convert_none_of_bad _ <|
    (foldl_bad parseItem_le hi (fun q => parseItem_bad q it h) _).mono (parse_le items)

/-- what `convert` declares for a column -/
def decl (c : Col) : String × Bool := (c.name, c.notNull)

/-- a constraint touches only the last column: `NOT NULL` and `UNIQUE` mark it, its name stays -/
theorem applyCons_cols (n : String) (p : Parsed) (k : Cons) (init : List Col) (c : Col)
    (hp : p.cols = init ++ [c]) :
    (applyCons n p k).cols =
      init ++ [{ c with notNull := c.notNull || decide (k = .notNull),
                        unique := c.unique || decide (k = .unique) }] := by
  cases k with
  | primaryKey => simp only [applyCons]; split <;> simp [hp]
  | _ => simp [applyCons, hp]

theorem foldl_applyCons_cols (n : String) (cs : List Cons) (p : Parsed) (init : List Col) (c : Col)
    (hp : p.cols = init ++ [c]) :
    (cs.foldl (applyCons n) p).cols =
      init ++ [{ c with notNull := c.notNull || cs.contains .notNull,
                        unique := c.unique || cs.contains .unique }] := by
  induction cs generalizing p c with
  | nil => simpa using hp
  | cons k cs ih =>
    rw [List.foldl_cons, ih _ _ (applyCons_cols n p k init c hp)]
    simp [Bool.or_assoc, eq_comm]

theorem parseItem_cols (p : Parsed) (it : Item) :
    (parseItem p it).cols.map decl = p.cols.map decl ++
      match it with
      | .col n _ cs => [(n, cs.contains .notNull)]
      | .tablePK _ => [] := by
  cases it with
  | col n t cs =>
    simp only [parseItem]
    rw [foldl_applyCons_cols n cs _ p.cols ⟨n, false, false⟩ (by split <;> rfl)]
    simp [decl]
  | tablePK ns => simp only [parseItem, List.append_nil]; split <;> rfl

theorem convert_none_of_dup (items : List Item)
    (h : hasDup ((parse items).cols.map (lower ∘ Col.name)) = true) : convert items = none := by
  simp [convert, h]

theorem convert_some {items : List Item} {d : Declared} (h : convert items = some d) :
    d.cols = (parse items).cols.map decl ∧
    ∀ k, d.key = some k → (∃ k0, (parse items).pk = [k0] ∧ lower k = lower k0) ∧
      k ∈ (parse items).cols.map Col.name := by
  -- the three rejecting tests did not fire; what is left is the `match` on the key clause
  simp only [convert, Option.ite_none_left_eq_some] at h
  obtain ⟨-, -, -, h⟩ := h
  split at h
  · next k hpk =>
    split at h <;> cases h
    next n hn =>
    exact ⟨rfl, fun _ hk => by
      cases hk
      exact ⟨⟨k, hpk, by simpa using List.find?_some hn⟩, List.mem_of_find?_eq_some hn⟩⟩
  · cases h
    exact ⟨rfl, nofun⟩

theorem applyOpts_some {o o' : Opts} {seen : List String} {l : List (String × OptVal)}
    (h : applyOpts o seen l = some o') :
    (l.map Prod.fst).Nodup ∧ ∀ n ∈ l.map Prod.fst, n ∉ seen := by
  induction l generalizing o seen with
  | nil => simp
  | cons nv rest ih =>
    unfold applyOpts at h
    split at h
    · cases h
    next hn =>
    split at h
    · -- the rest was accepted with this name added to `seen`
      obtain ⟨h1, h2⟩ := ih h
      exact ⟨List.nodup_cons.2 ⟨fun a => h2 _ a List.mem_cons_self, h1⟩,
        List.forall_mem_cons.2 ⟨fun hs => hn (List.contains_iff_mem.2 hs),
          fun m hm hs => h2 m hm (List.mem_cons_of_mem _ hs)⟩⟩
    · cases h

theorem createEff_snd (F : Facts) (h1 : F.argsBeforeOpen = true) (h2 : F.registerAfterOpen = true)
    (h3 : F.declareFailureUnregisters = true) (dec opens declOK : Bool) :
    (createEff F dec opens declOK).2 = (createEff F dec opens declOK).1 := by
  cases dec <;> cases opens <;> cases declOK <;> simp [createEff, h1, h2, h3]

/-- with the names checked before the open, the one rejecting branch that may have stored a merge
    (`!namesOK` after the open) is not reached -/
theorem createWrites_rejected (F : Facts) (hF : F.declarableCheckedBeforeOpen = true)
    (dec namesOK opens multi : Bool) (h : (createWrites F dec namesOK opens multi).1 = false) :
    (createWrites F dec namesOK opens multi).2 = false := by
  cases dec <;> cases namesOK <;> cases opens <;> simp_all [createWrites]

/-- `String.toLower` through lists of characters: the right-hand side reduces in the kernel on
    literals, `String.mapAux` does not -/
theorem lower_eq (s : String) : lower s = String.ofList (s.toList.map Char.toLower) := by
  unfold lower String.toLower
  exact String.map_eq_internal

end S3db.Schema
