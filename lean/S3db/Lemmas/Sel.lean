/-!
# Merges that *select*: order, grouping and repetition do not matter

Both the kv-level `LastWriteWins` and each component of the row merge (row status, every
column) return one of their two arguments.  For such a function, commutativity and
associativity on a pairwise-compatible family are enough to show that evaluating **any**
merge plan (any binary tree over the versions, leaves repeated at will) yields the same
result as any other plan with the same set of leaves.  All three merges are of one kind: they
return the greater argument under a total preorder (`Laws.of_le`).  Core Lean only.
-/
namespace S3db.Sel

variable {A : Type}

/-- laws of a selecting merge on a family related by `R` ("no two different values tie") -/
structure Laws (sel : A → A → A) (R : A → A → Prop) : Prop where
  pick  : ∀ x y, sel x y = x ∨ sel x y = y
  comm  : ∀ x y, R x y → sel x y = sel y x
  assoc : ∀ x y z, R x y → R y z → R x z → sel (sel x y) z = sel x (sel y z)

variable {sel : A → A → A} {R : A → A → Prop}

theorem Laws.idem (L : Laws sel R) (x : A) : sel x x = x := by
  rcases L.pick x x with h | h <;> exact h

theorem Laws.absorb_right (L : Laws sel R) (x y : A) : sel (sel x y) y = sel x y := by
  rcases L.pick x y with h | h <;> rw [h]
  · exact h
  · exact L.idem y

theorem Laws.mono {R' : A → A → Prop} (L : Laws sel R) (h : ∀ x y, R' x y → R x y) : Laws sel R' :=
  ⟨L.pick, fun x y r => L.comm x y (h x y r),
    fun x y z r1 r2 r3 => L.assoc x y z (h x y r1) (h y z r2) (h x z r3)⟩

/-- "`a` wins against `b`" is transitive -/
theorem Laws.dom_trans (L : Laws sel R) {a b y : A} (hab : R a b) (hby : R b y) (hay : R a y)
    (h1 : sel a b = a) (h2 : sel b y = b) : sel a y = a :=
  calc sel a y = sel (sel a b) y := by rw [h1]
    _ = sel a (sel b y) := L.assoc a b y hab hby hay
    _ = a := by rw [h2, h1]

/-- A merge that returns a greatest of its two arguments under a total preorder `le` — whichever
    way it breaks ties — satisfies the laws on families in which a tie means equality. -/
theorem Laws.of_le (le : A → A → Prop) (total : ∀ x y, le x y ∨ le y x)
    (trans : ∀ x y z, le x y → le y z → le x z) (pick : ∀ x y, sel x y = x ∨ sel x y = y)
    (le_left : ∀ x y, le x (sel x y)) (le_right : ∀ x y, le y (sel x y)) :
    Laws sel (fun x y => le x y → le y x → x = y) := by
  -- on such a family the order decides the result
  have right : ∀ x y, (le x y → le y x → x = y) → le x y → sel x y = y := fun x y r h => by
    rcases pick x y with e | e
    · have := le_right x y; rw [e] at this; rw [e]; exact r h this
    · exact e
  have left : ∀ x y, (le x y → le y x → x = y) → le y x → sel x y = x := fun x y r h => by
    rcases pick x y with e | e
    · exact e
    · have := le_left x y; rw [e] at this; rw [e]; exact (r this h).symm
  refine ⟨pick, fun x y r => ?_, fun x y z rxy ryz rxz => ?_⟩
  · rcases total x y with h | h
    · rw [right x y r h, left y x (fun a b => (r b a).symm) h]
    · rw [left x y r h, right y x (fun a b => (r b a).symm) h]
  · rcases total x y with hxy | hyx <;> rcases total y z with hyz | hzy
    · rw [right x y rxy hxy, right y z ryz hyz, right x z rxz (trans x y z hxy hyz)]
    · rw [right x y rxy hxy, left y z ryz hzy, right x y rxy hxy]
    · rw [left x y rxy hyx, right y z ryz hyz]
    · rw [left x y rxy hyx, left y z ryz hzy, left x y rxy hyx, left x z rxz (trans z y x hzy hyx)]

/-- the argument with the later time `t`; on a tie the second -/
def latest (t : A → Int) (x y : A) : A := if ¬ (t y < t x) then y else x

theorem le_latest_left (t : A → Int) (x y : A) : t x ≤ t (latest t x y) := by
  unfold latest; split <;> omega
theorem le_latest_right (t : A → Int) (x y : A) : t y ≤ t (latest t x y) := by
  unfold latest; split <;> omega

theorem latest_of_lt {t : A → Int} {x y : A} (h : t y < t x) : latest t x y = x := by
  simp [latest, h]

theorem le_of_latest_eq_left {t : A → Int} {x y : A} (h : latest t x y = x) : t y ≤ t x := by
  have := le_latest_right t x y; rwa [h] at this

theorem latestLaws (t : A → Int) : Laws (latest t) (fun x y => t x = t y → x = y) :=
  (Laws.of_le (fun x y => t x ≤ t y) (fun _ _ => Int.le_total _ _) (fun _ _ _ => Int.le_trans)
    (fun x y => by unfold latest; split <;> simp) (le_latest_left t) (le_latest_right t)).mono
    fun _ _ r h1 h2 => r (Int.le_antisymm h1 h2)

def selOpt (sel : A → A → A) : Option A → Option A → Option A
  | none, y => y
  | x, none => x
  | some x, some y => some (sel x y)

@[simp] theorem selOpt_none_left (sel : A → A → A) (y : Option A) : selOpt sel none y = y := by
  cases y <;> rfl
@[simp] theorem selOpt_none_right (sel : A → A → A) (x : Option A) : selOpt sel x none = x := by
  cases x <;> rfl
@[simp] theorem selOpt_some (sel : A → A → A) (x y : A) : selOpt sel (some x) (some y) = some (sel x y) := rfl

theorem Laws.opt (L : Laws sel R) :
    Laws (selOpt sel) (fun x y => ∀ a b, x = some a → y = some b → R a b) where
  pick x y := by
    cases x <;> cases y <;> simp
    exact L.pick _ _
  comm x y h := by
    cases x <;> cases y <;> simp
    exact L.comm _ _ (h _ _ rfl rfl)
  assoc x y z hxy hyz hxz := by
    cases x <;> cases y <;> cases z <;> simp
    exact L.assoc _ _ _ (hxy _ _ rfl rfl) (hyz _ _ rfl rfl) (hxz _ _ rfl rfl)

theorem selOpt_pick (L : Laws sel R) {a b : Option A} {w : A} (h : selOpt sel a b = some w) :
    a = some w ∨ b = some w :=
  (L.opt.pick a b).imp (·.symm.trans h) (·.symm.trans h)

theorem selOpt_latest_ge_left {t : A → Int} {d : Int} {a : Option A} (h : ∃ x, a = some x ∧ d ≤ t x)
    (b : Option A) : ∃ w, selOpt (latest t) a b = some w ∧ d ≤ t w := by
  obtain ⟨x, rfl, hd⟩ := h
  cases b with
  | none => exact ⟨x, rfl, hd⟩
  | some y => exact ⟨_, rfl, Int.le_trans hd (le_latest_left t x y)⟩
theorem selOpt_latest_ge_right {t : A → Int} {d : Int} (a : Option A) {b : Option A}
    (h : ∃ y, b = some y ∧ d ≤ t y) : ∃ w, selOpt (latest t) a b = some w ∧ d ≤ t w := by
  obtain ⟨y, rfl, hd⟩ := h
  cases a with
  | none => exact ⟨y, rfl, hd⟩
  | some x => exact ⟨_, rfl, Int.le_trans hd (le_latest_right t x y)⟩

/-- a merge plan: which versions are merged, in which grouping -/
inductive Plan where
  | leaf (i : Nat)
  | node (p q : Plan)
deriving Repr

def Plan.leaves : Plan → List Nat
  | .leaf i => [i]
  | .node p q => p.leaves ++ q.leaves

/-- the value of one cell after executing the plan; `v i` is the cell in version `i` -/
def evalAt (sel : A → A → A) (v : Nat → Option A) : Plan → Option A
  | .leaf i => v i
  | .node p q => selOpt sel (evalAt sel v p) (evalAt sel v q)

/-- executing a plan with a merge `f` of values that are always there (`evalAt` is this for
    `selOpt sel`, by `evalAt_eq_fold`) -/
def fold {B : Type} (f : B → B → B) (v : Nat → B) : Plan → B
  | .leaf i => v i
  | .node p q => f (fold f v p) (fold f v q)

theorem evalAt_eq_fold (v : Nat → Option A) : ∀ p, evalAt sel v p = fold (selOpt sel) v p
  | .leaf _ => rfl
  | .node p q => by rw [evalAt, fold, evalAt_eq_fold v p, evalAt_eq_fold v q]

section fold
variable {B : Type} {f : B → B → B} {Q : B → B → Prop}

theorem fold_dom (L : Laws f Q) {v : Nat → B} (hQ : ∀ i j, Q (v i) (v j)) :
    ∀ p : Plan, (∃ i ∈ p.leaves, fold f v p = v i) ∧ ∀ j ∈ p.leaves, f (fold f v p) (v j) = fold f v p
  | .leaf i => ⟨⟨i, List.mem_singleton.2 rfl, rfl⟩, fun j hj => by
      rw [List.mem_singleton.1 hj]; exact L.idem _⟩
  | .node p q => by
    obtain ⟨⟨ia, hia, ha⟩, hda⟩ := fold_dom L hQ p
    obtain ⟨⟨ib, hib, hb⟩, hdb⟩ := fold_dom L hQ q
    simp only [fold, Plan.leaves, List.mem_append]
    generalize fold f v p = a at *
    generalize fold f v q = b at *
    subst ha hb
    -- the winner of the two sides also wins against whatever the loser won against
    rcases L.pick (v ia) (v ib) with hab | hab <;> rw [hab]
    · exact ⟨⟨ia, .inl hia, rfl⟩, fun j hj => hj.elim (hda j) fun hj =>
        L.dom_trans (hQ ..) (hQ ..) (hQ ..) hab (hdb j hj)⟩
    · have hba : f (v ib) (v ia) = v ib := (L.comm _ _ (hQ ..)).symm.trans hab
      exact ⟨⟨ib, .inr hib, rfl⟩, fun j hj => hj.elim (fun hj =>
        L.dom_trans (hQ ..) (hQ ..) (hQ ..) hba (hda j hj)) (hdb j)⟩

theorem fold_indep (L : Laws f Q) {v : Nat → B} (hQ : ∀ i j, Q (v i) (v j))
    (p q : Plan) (hpq : ∀ i, i ∈ p.leaves ↔ i ∈ q.leaves) : fold f v p = fold f v q := by
  obtain ⟨⟨ia, hia, ha⟩, hda⟩ := fold_dom L hQ p
  obtain ⟨⟨ib, hib, hb⟩, hdb⟩ := fold_dom L hQ q
  -- each result wins against the other
  have h1 := hda ib ((hpq ib).2 hib)
  have h2 := hdb ia ((hpq ia).1 hia)
  rw [← hb] at h1; rw [← ha] at h2
  rw [← h1, L.comm _ _ (ha ▸ hb ▸ hQ ia ib), h2]

end fold

theorem evalAt_some (L : Laws sel R) {v : Nat → Option A}
    (hR : ∀ i j x y, v i = some x → v j = some y → R x y)
    (p : Plan) (r : A) (h : evalAt sel v p = some r) :
    (∃ i ∈ p.leaves, v i = some r) ∧ (∀ i ∈ p.leaves, ∀ y, v i = some y → sel r y = r) := by
  obtain ⟨⟨i, hi, e⟩, hd⟩ := fold_dom L.opt (fun i j => hR i j) p
  rw [← evalAt_eq_fold, h] at e hd
  exact ⟨⟨i, hi, e.symm⟩, fun j hj y hy => by have := hd j hj; rw [hy] at this; exact Option.some.inj this⟩

theorem evalAt_rel (L : Laws sel R) {v : Nat → Option A}
    (hR : ∀ i j x y, v i = some x → v j = some y → R x y) (p q : Plan) {a b : A}
    (ha : evalAt sel v p = some a) (hb : evalAt sel v q = some b) : R a b := by
  obtain ⟨⟨i, _, hi⟩, _⟩ := evalAt_some L hR p a ha
  obtain ⟨⟨j, _, hj⟩, _⟩ := evalAt_some L hR q b hb
  exact hR i j a b hi hj

/-- **Convergence of one cell**: two plans over the same set of versions agree, whatever the
    order, the grouping, and however often a version is merged again. -/
theorem evalAt_indep (L : Laws sel R) {v : Nat → Option A}
    (hR : ∀ i j x y, v i = some x → v j = some y → R x y)
    (p q : Plan) (hpq : ∀ i, i ∈ p.leaves ↔ i ∈ q.leaves) :
    evalAt sel v p = evalAt sel v q := by
  rw [evalAt_eq_fold, evalAt_eq_fold]
  exact fold_indep L.opt (fun i j => hR i j) p q hpq

theorem evalAt_absorb (L : Laws sel R) {v : Nat → Option A}
    (hR : ∀ i j x y, v i = some x → v j = some y → R x y)
    (p q : Plan) (hsub : ∀ i, i ∈ q.leaves → i ∈ p.leaves) :
    evalAt sel v (.node p q) = evalAt sel v p :=
  evalAt_indep L hR _ _ fun i => by
    simp only [Plan.leaves, List.mem_append]
    exact ⟨fun h => h.elim id (hsub i), Or.inl⟩

end S3db.Sel
