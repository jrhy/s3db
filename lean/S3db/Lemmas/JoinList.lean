import S3db.Model.Proto
/-!
# Helper lemmas for C04

* joins over lists for an associative, commutative, idempotent `join` with unit `bot`
  (`foldl join bot` depends only on the set of elements; proved through the induced order);
* what a prefix of the request list `putNodes n :: putCur n :: retire…` does to a bucket.

Core Lean only.
-/
namespace S3db.JoinList
open S3db.Proto

/-! ## joins over lists -/

structure Laws {C : Type} (join : C → C → C) (bot : C) : Prop where
  assoc : ∀ a b c, join (join a b) c = join a (join b c)
  comm : ∀ a b, join a b = join b a
  idem : ∀ a, join a a = a
  bot_left : ∀ a, join bot a = a

section Join
variable {C : Type} {join : C → C → C} {bot : C}

/-- the join of a list (same unfolding as `C04.joinAll`) -/
def jall (join : C → C → C) (bot : C) (xs : List C) : C := xs.foldl join bot

/-- the order induced by the join -/
def Le (join : C → C → C) (a b : C) : Prop := join a b = b

theorem Laws.bot_right (L : Laws join bot) (a : C) : join a bot = a := by
  rw [L.comm, L.bot_left]

theorem foldl_init (L : Laws join bot) (xs : List C) (a : C) :
    xs.foldl join a = join a (xs.foldl join bot) := by
  induction xs generalizing a with
  | nil => simp [L.bot_right]
  | cons x xs ih =>
    simp only [List.foldl_cons]
    rw [ih (join a x), ih (join bot x), L.bot_left, L.assoc]

theorem jall_nil : jall join bot [] = bot := rfl

theorem jall_cons (L : Laws join bot) (x : C) (xs : List C) :
    jall join bot (x :: xs) = join x (jall join bot xs) := by
  simp only [jall, List.foldl_cons]
  rw [foldl_init L, L.bot_left]

theorem Le.refl (L : Laws join bot) (a : C) : Le join a a := L.idem a

theorem Le.trans (L : Laws join bot) {a b c : C} (h1 : Le join a b) (h2 : Le join b c) :
    Le join a c := by
  unfold Le at *
  rw [← h2, ← L.assoc, h1]

theorem Le.antisymm (L : Laws join bot) {a b : C} (h1 : Le join a b) (h2 : Le join b a) : a = b := by
  unfold Le at *
  rw [← h2, L.comm, h1]

theorem Le.join_left (L : Laws join bot) (a b : C) : Le join a (join a b) := by
  unfold Le
  rw [← L.assoc, L.idem]

theorem Le.join_right (L : Laws join bot) (a b : C) : Le join b (join a b) := by
  unfold Le
  rw [L.comm a b, ← L.assoc, L.idem]

theorem Le.join_le (L : Laws join bot) {a b c : C} (h1 : Le join a c) (h2 : Le join b c) :
    Le join (join a b) c := by
  unfold Le at *
  rw [L.assoc, h2, h1]

theorem Le.bot_le (L : Laws join bot) (a : C) : Le join bot a := L.bot_left a

/-- every element is below the join of the list -/
theorem le_jall (L : Laws join bot) {x : C} {xs : List C} (h : x ∈ xs) : Le join x (jall join bot xs) := by
  induction xs with
  | nil => cases h
  | cons y ys ih =>
    rw [jall_cons L]
    rcases List.mem_cons.mp h with h | h
    · subst h; exact Le.join_left L _ _
    · exact Le.trans L (ih h) (Le.join_right L _ _)

/-- the join of the list is the least upper bound -/
theorem jall_le (L : Laws join bot) {u : C} {xs : List C} (h : ∀ x, x ∈ xs → Le join x u) :
    Le join (jall join bot xs) u := by
  induction xs with
  | nil => exact Le.bot_le L u
  | cons y ys ih =>
    rw [jall_cons L]
    exact Le.join_le L (h y (List.mem_cons_self ..)) (ih fun x hx => h x (List.mem_cons_of_mem _ hx))

/-- membership absorption -/
theorem jall_absorb (L : Laws join bot) {x : C} {xs : List C} (h : x ∈ xs) :
    join x (jall join bot xs) = jall join bot xs := le_jall L h

theorem jall_mono (L : Laws join bot) {xs ys : List C} (h : ∀ x, x ∈ xs → x ∈ ys) :
    Le join (jall join bot xs) (jall join bot ys) :=
  jall_le L fun x hx => le_jall L (h x hx)

/-- the join of a list depends only on its set of elements -/
theorem jall_congr (L : Laws join bot) {xs ys : List C} (h : ∀ x, x ∈ xs ↔ x ∈ ys) :
    jall join bot xs = jall join bot ys :=
  Le.antisymm L (jall_mono L fun x => (h x).mp) (jall_mono L fun x => (h x).mpr)

theorem jall_append (L : Laws join bot) (xs ys : List C) :
    jall join bot (xs ++ ys) = join (jall join bot xs) (jall join bot ys) := by
  induction xs with
  | nil => simp [jall_nil, L.bot_left]
  | cons x xs ih => rw [List.cons_append, jall_cons L, jall_cons L, ih, L.assoc]

end Join

/-! ## prefixes of a commit's request list -/

/-- `moveMergedRoots` for one parent, in the order the generated facts give -/
def retire (n p : Vid) : List Req := if n == p then [] else [.putMerged p, .delCur p]

/-- the request list of a commit, in the order the generated facts give -/
def reqs (n : Vid) (ps : List Vid) : List Req := .putNodes n :: .putCur n :: ps.flatMap (retire n)

theorem mem_addNew {v x : Vid} {xs : List Vid} : x ∈ addNew v xs ↔ x = v ∨ x ∈ xs := by
  unfold addNew
  split
  · next h => exact ⟨Or.inr, fun h' => h'.elim (· ▸ h) id⟩
  · simp [or_comm]

theorem mem_addNew_self (v : Vid) (xs : List Vid) : v ∈ addNew v xs := mem_addNew.mpr (Or.inl rfl)

theorem mem_addNew_of_mem {v x : Vid} {xs : List Vid} (h : x ∈ xs) : x ∈ addNew v xs :=
  mem_addNew.mpr (Or.inr h)

theorem mem_delCur {b : Bucket} {p x : Vid} :
    x ∈ (b.apply (.delCur p)).current ↔ x ∈ b.current ∧ x ≠ p := by
  simp [Bucket.apply, List.mem_filter]

theorem mem_retireAll {n : Vid} {ps : List Vid} {r : Req} (h : r ∈ ps.flatMap (retire n)) :
    ∃ p, p ∈ ps ∧ p ≠ n ∧ (r = .putMerged p ∨ r = .delCur p) := by
  obtain ⟨p, hp, hr⟩ := List.mem_flatMap.mp h
  unfold retire at hr
  split at hr
  · cases hr
  · next hnp => exact ⟨p, hp, fun e => hnp (beq_iff_eq.mpr e.symm), by simpa using hr⟩

theorem take_reqs (n : Vid) (ps : List Vid) (k : Nat) :
    (k = 0 ∧ (reqs n ps).take k = []) ∨ (k = 1 ∧ (reqs n ps).take k = [.putNodes n]) ∨
    (2 ≤ k ∧ ∃ rs, (reqs n ps).take k = .putNodes n :: .putCur n :: rs ∧
        ∀ r, r ∈ rs → ∃ p, p ∈ ps ∧ p ≠ n ∧ (r = .putMerged p ∨ r = .delCur p)) := by
  match k with
  | 0 => exact Or.inl ⟨rfl, rfl⟩
  | 1 => exact Or.inr (Or.inl ⟨rfl, rfl⟩)
  | k + 2 =>
    refine Or.inr (Or.inr ⟨by omega, (ps.flatMap (retire n)).take k, rfl, fun r hr => ?_⟩)
    exact mem_retireAll (List.mem_of_mem_take hr)

theorem putCur_mem_take {n : Vid} {ps : List Vid} {k : Nat}
    (h : Req.putCur n ∈ (reqs n ps).take k) : 2 ≤ k := by
  rcases take_reqs n ps k with ⟨_, e⟩ | ⟨_, e⟩ | ⟨h2, _⟩
  · rw [e] at h; cases h
  · rw [e] at h; simp at h
  · exact h2

/-- the `root/current/` listing once the version PUT was served, while parents are being retired -/
structure After (cur0 : List Vid) (n : Vid) (ps : List Vid) (cur : List Vid) : Prop where
  new_mem : n ∈ cur
  sub : ∀ x, x ∈ cur → x = n ∨ x ∈ cur0
  kept : ∀ x, x ∈ cur0 → x ∈ cur ∨ x ∈ ps

theorem After.retire {cur0 : List Vid} {n : Vid} {ps : List Vid} (rs : List Req)
    (hrs : ∀ r, r ∈ rs → ∃ p, p ∈ ps ∧ p ≠ n ∧ (r = .putMerged p ∨ r = .delCur p))
    (b : Bucket) (h : After cur0 n ps b.current) :
    After cur0 n ps (rs.foldl Bucket.apply b).current := by
  refine List.foldlRecOn (motive := fun b : Bucket => After cur0 n ps b.current) rs _ h fun b h r hr => ?_
  obtain ⟨p, hp, hpn, rfl | rfl⟩ := hrs r hr
  · exact h
  · refine ⟨mem_delCur.mpr ⟨h.new_mem, hpn.symm⟩, fun x hx => h.sub x (mem_delCur.mp hx).1, fun x hx => ?_⟩
    by_cases hxp : x = p
    · exact Or.inr (hxp ▸ hp)
    · exact (h.kept x hx).imp (fun h1 => mem_delCur.mpr ⟨h1, hxp⟩) id

/-- the `root/current/` listing after a crash that let `k` requests through -/
theorem crash_current (b : Bucket) (n : Vid) (ps : List Vid) (k : Nat) :
    (k < 2 ∧ (((reqs n ps).take k).foldl Bucket.apply b).current = b.current) ∨
    (2 ≤ k ∧ After b.current n ps (((reqs n ps).take k).foldl Bucket.apply b).current) := by
  rcases take_reqs n ps k with ⟨hk, e⟩ | ⟨hk, e⟩ | ⟨hk, rs, e, hrs⟩
  · exact Or.inl ⟨by omega, by rw [e]; rfl⟩
  · exact Or.inl ⟨by omega, by rw [e]; rfl⟩
  · rw [e, List.foldl_cons, List.foldl_cons]
    exact Or.inr ⟨hk, After.retire rs hrs _
      ⟨mem_addNew_self .., fun _ hx => mem_addNew.mp hx, fun _ hx => Or.inl (mem_addNew_of_mem hx)⟩⟩

section
variable {C : Type} {join : C → C → C} {bot : C} {α : Type}

theorem le_jall_map (L : Laws join bot) (f : α → C) {y : α} {ys : List α} (h : y ∈ ys) :
    Le join (f y) (jall join bot (ys.map f)) :=
  le_jall L (List.mem_map_of_mem h)

theorem jall_map_le (L : Laws join bot) (f : α → C) {u : C} {ys : List α}
    (h : ∀ y, y ∈ ys → Le join (f y) u) : Le join (jall join bot (ys.map f)) u :=
  jall_le L (List.forall_mem_map.mpr h)

end

/-- the view of a listing in the `After` shape is the old view joined with the transaction's `δ` -/
theorem After.view {C : Type} {join : C → C → C} {bot : C} (L : Laws join bot) (content : Vid → C)
    {cur0 : List Vid} {n : Vid} {ps : List Vid} {cur : List Vid} {δ : C}
    (hps : ∀ p, p ∈ ps → p ∈ cur0)
    (hcontent : content n = join (jall join bot (ps.map content)) δ)
    (h : After cur0 n ps cur) :
    jall join bot (cur.map content) = join (jall join bot (cur0.map content)) δ := by
  have hpsle : Le join (jall join bot (ps.map content)) (jall join bot (cur0.map content)) :=
    jall_map_le L content fun p hp => le_jall_map L content (hps p hp)
  have hnle := le_jall_map L content h.new_mem
  rw [hcontent] at hnle
  apply Le.antisymm L
  · refine jall_map_le L content fun y hy => ?_
    rcases h.sub y hy with rfl | hy0
    · rw [hcontent]
      exact Le.join_le L (Le.trans L hpsle (Le.join_left L _ _)) (Le.join_right L _ _)
    · exact Le.trans L (le_jall_map L content hy0) (Le.join_left L _ _)
  · refine Le.join_le L (jall_map_le L content fun y hy => ?_) (Le.trans L (Le.join_right L _ _) hnle)
    rcases h.kept y hy with h1 | h1
    · exact le_jall_map L content h1
    · exact Le.trans L (Le.trans L (le_jall_map L content h1) (Le.join_left L _ _)) hnle

/-- the view after a crash that let `k` requests through: unchanged before the version PUT,
    the old view joined with `δ` from then on -/
theorem crash_view {C : Type} {join : C → C → C} {bot : C} (L : Laws join bot) (content : Vid → C)
    (b : Bucket) (n : Vid) (ps : List Vid) (δ : C) (hps : ∀ p, p ∈ ps → p ∈ b.current)
    (hcontent : content n = join (jall join bot (ps.map content)) δ) (k : Nat) :
    (k < 2 ∧ jall join bot ((((reqs n ps).take k).foldl Bucket.apply b).current.map content) =
        jall join bot (b.current.map content)) ∨
    (2 ≤ k ∧ jall join bot ((((reqs n ps).take k).foldl Bucket.apply b).current.map content) =
        join (jall join bot (b.current.map content)) δ) := by
  rcases crash_current b n ps k with ⟨hk, e⟩ | ⟨hk, ha⟩
  · exact Or.inl ⟨hk, by rw [e]⟩
  · exact Or.inr ⟨hk, ha.view L content hps hcontent⟩

theorem join_absorb_new {C : Type} {join : C → C → C} {bot : C} (L : Laws join bot) (a δ : C) :
    join (join a δ) a = join a δ := by
  rw [L.comm, ← L.assoc, L.idem]

/-- listed versions have their nodes stored, at every crash point -/
theorem crash_nodes (b : Bucket) (n : Vid) (ps : List Vid) (k : Nat)
    (hb : ∀ v, v ∈ b.current → v ∈ b.nodes) :
    ∀ v, v ∈ (((reqs n ps).take k).foldl Bucket.apply b).current →
      v ∈ (((reqs n ps).take k).foldl Bucket.apply b).nodes := by
  rcases take_reqs n ps k with ⟨_, e⟩ | ⟨_, e⟩ | ⟨_, rs, e, hrs⟩
  · rw [e]; exact hb
  · rw [e]; exact fun v hv => mem_addNew_of_mem (hb v hv)
  · rw [e, List.foldl_cons, List.foldl_cons]
    refine List.foldlRecOn (motive := fun b : Bucket => ∀ v, v ∈ b.current → v ∈ b.nodes) rs _ ?_
      fun b hb r hr => ?_
    · -- the flush came before the version PUT
      intro v hv
      rcases mem_addNew.mp hv with rfl | h
      · exact mem_addNew_self ..
      · exact mem_addNew_of_mem (hb v h)
    · obtain ⟨p, _, _, rfl | rfl⟩ := hrs r hr
      · exact hb
      · exact fun v hv => hb v (mem_delCur.mp hv).1

end S3db.JoinList
