import S3db.Model.Vacuum
/-!
# The depth-first deletion order is closed at every prefix (F93)

Helper lemmas for `C09.deletion_order_prefix_closed`.  Core Lean only.
-/
namespace S3db.Vacuum

variable {g : VGraph} {chosen : List Nat}

theorem good_mem {l : List Nat} (h : Good g chosen l) {c : Nat} (hc : c ∈ l) {p : Nat}
    (hp : p ∈ g.parents c) (hpc : p ∈ chosen) : p ∈ l := by
  induction l with
  | nil => cases hc
  | cons a older ih =>
    rcases List.mem_cons.mp hc with rfl | hc
    · exact List.mem_cons_of_mem _ (h.1 p hp hpc)
    · exact List.mem_cons_of_mem _ (ih h.2 hc)

theorem good_suffix {a b : List Nat} (h : Good g chosen (a ++ b)) : Good g chosen b := by
  induction a with
  | nil => exact h
  | cons x a ih => exact ih h.2

theorem prefixClosed_of_good {l : List Nat} (h : Good g chosen l) : PrefixClosed g chosen l.reverse := by
  intro done todo hsplit c hc p hp hpc
  have hl : l = todo.reverse ++ done.reverse := by
    simpa using congrArg List.reverse hsplit
  rw [hl] at h
  exact List.mem_reverse.mp (good_mem (good_suffix h) (List.mem_reverse.mpr hc) hp hpc)

/-- all a visit does is put chosen versions in front -/
theorem visitFirst_keeps {P : List Nat → Prop} (hcons : ∀ v l, v ∈ chosen → P l → P (v :: l))
    (fuel : Nat) : ∀ (acc : List Nat) (v : Nat), v ∈ chosen → P acc →
      P (visitFirst g chosen fuel acc v) := by
  induction fuel with
  | zero =>
    intro acc v hv hacc
    unfold visitFirst
    split
    · exact hacc
    · exact hcons v acc hv hacc
  | succ fuel ih =>
    intro acc v hv hacc
    unfold visitFirst
    split
    · exact hacc
    · have hacc' := List.foldlRecOn ((g.parents v).filter chosen.contains) (visitFirst g chosen fuel) hacc
        fun b hb p hp => ih b p (by simpa using (List.mem_filter.1 hp).2) hb
      simp only
      split
      · exact hacc'
      · exact hcons v _ hv hacc'

theorem visitFirst_mem_self (fuel : Nat) (acc : List Nat) (v : Nat) :
    v ∈ visitFirst g chosen fuel acc v := by
  cases fuel <;> unfold visitFirst <;> split
  · exact List.contains_iff_mem.1 ‹_›
  · exact List.mem_cons_self
  · exact List.contains_iff_mem.1 ‹_›
  · simp only
    split
    · exact List.contains_iff_mem.1 ‹_›
    · exact List.mem_cons_self

theorem foldl_mem (fuel : Nat) (ps : List Nat) (hps : ∀ p, p ∈ ps → p ∈ chosen) (acc : List Nat)
    (p : Nat) (hp : p ∈ ps) : p ∈ ps.foldl (visitFirst g chosen fuel) acc := by
  induction ps generalizing acc with
  | nil => cases hp
  | cons q ps ih =>
    rw [List.foldl_cons]
    rcases List.mem_cons.mp hp with rfl | hp
    · exact List.foldlRecOn ps _ (visitFirst_mem_self fuel acc p) fun b hb q hq =>
        visitFirst_keeps (fun _ _ _ => List.mem_cons_of_mem _) fuel b q
          (hps q (List.mem_cons_of_mem _ hq)) hb
    · exact ih (fun q hq => hps q (List.mem_cons_of_mem _ hq)) _ hp

/-- `rank` witnesses that the graph has no cycles (a version's parents rank below it), so that
    the fuel is enough -/
theorem visitFirst_good (rank : Nat → Nat) (hrank : ∀ c p, p ∈ g.parents c → rank p < rank c)
    (fuel : Nat) : ∀ (acc : List Nat) (v : Nat), rank v ≤ fuel → Good g chosen acc →
      Good g chosen (visitFirst g chosen fuel acc v) := by
  induction fuel with
  | zero =>
    intro acc v hv hg
    unfold visitFirst
    split
    · exact hg
    · exact ⟨fun p hp _ => absurd (hrank v p hp) (by omega), hg⟩
  | succ fuel ih =>
    intro acc v hv hg
    have hps : ∀ p, p ∈ (g.parents v).filter chosen.contains → p ∈ g.parents v ∧ p ∈ chosen :=
      fun p hp => by simpa using List.mem_filter.1 hp
    unfold visitFirst
    split
    · exact hg
    · have hg' := List.foldlRecOn _ (visitFirst g chosen fuel) hg fun b hb p hp =>
        ih b p (by have := hrank v p (hps p hp).1; omega) hb
      simp only
      split
      · exact hg'
      · exact ⟨fun p hp hpc => foldl_mem fuel _ (fun p hp => (hps p hp).2) acc p
          (List.mem_filter.2 ⟨hp, by simpa using hpc⟩), hg'⟩

end S3db.Vacuum
