import S3db.Model.Box
/-!
# Lemmas for the node-encryption model (`Model/Box.lean`)

Salsa20 is never evaluated: the only facts used about it are that a block has 64 bytes, each
`< 256`.  Everything else is about `xorAt k off m` for an ARBITRARY keystream function
`k : Nat → Nat`, to which the executable `xorKeyStream` is proved equal (`xorKeyStream_eq`).
`sealWith` / `openWith` are the shape the secretbox and the legacy format share (tag, then a stream
transformation `f`); what holds of both formats is proved there once.
-/
namespace S3db.Box
open S3db

theorem le32_length (w : UInt32) : (le32 w).length = 4 := rfl

theorem le32_lt (w : UInt32) : ∀ b ∈ le32 w, b < 256 := by
  simp [le32, Nat.mod_lt]

theorem salsa20Block_length (key nonce : Bytes) (ctr : Nat) : (salsa20Block key nonce ctr).length = 64 := by
  simp [salsa20Block, List.length_flatMap, le32_length, List.map_const']

theorem salsa20Block_lt (key nonce : Bytes) (ctr : Nat) : ∀ b ∈ salsa20Block key nonce ctr, b < 256 := by
  intro b hb
  obtain ⟨_, _, h⟩ := List.mem_flatMap.mp hb
  exact le32_lt _ b h

theorem hsalsa20_length (key n16 : Bytes) : (hsalsa20 key n16).length = 32 := by
  simp [hsalsa20, le32_length]

theorem ks_lt_256 (sub n8 : Bytes) (i : Nat) : ks sub n8 i < 256 := by
  have hi : i % 64 < (salsa20Block sub n8 (i / 64)).length := by rw [salsa20Block_length]; omega
  rw [ks, ← List.getElem_eq_getD (h := hi)]
  exact salsa20Block_lt sub n8 _ _ (List.getElem_mem hi)

theorem salsa20Block_eq (sub n8 : Bytes) (n : Nat) :
    salsa20Block sub n8 n = (List.range 64).map fun j => ks sub n8 (64 * n + j) := by
  apply List.ext_getElem
  · simp [salsa20Block_length]
  · intro j h _
    rw [salsa20Block_length] at h
    simp only [List.getElem_map, List.getElem_range, ks]
    rw [show (64 * n + j) / 64 = n by omega, show (64 * n + j) % 64 = j by omega, ← List.getElem_eq_getD]

theorem ksBlocks_succ (sub n8 : Bytes) (n : Nat) :
    ksBlocks sub n8 (n + 1) = ksBlocks sub n8 n ++ salsa20Block sub n8 n := by
  simp [ksBlocks, List.range_succ, List.flatMap_append]

theorem ksBlocks_eq (sub n8 : Bytes) : ∀ n, ksBlocks sub n8 n = (List.range (64 * n)).map (ks sub n8)
  | 0 => rfl
  | n + 1 => by
    rw [ksBlocks_succ, ksBlocks_eq sub n8 n, salsa20Block_eq, Nat.mul_succ, List.range_add, List.map_append,
      List.map_map]
    rfl

theorem xorList_drop_map_range (k : Nat → Nat) (n : Nat) : ∀ (m : Bytes) (off : Nat), off + m.length ≤ n →
    xorList m (((List.range n).map k).drop off) = xorAt k off m
  | [], _, _ => by simp [xorList, xorAt]
  | b :: bs, off, h => by
    have ho : off < ((List.range n).map k).length := by simp at h ⊢; omega
    rw [List.drop_eq_getElem_cons ho]
    simp only [xorList, xorAt, List.getElem_map, List.getElem_range]
    rw [xorList_drop_map_range k n bs (off + 1) (by simp at h; omega)]

theorem xorKeyStream_eq (sub n8 : Bytes) (off : Nat) (m : Bytes) :
    xorKeyStream sub n8 off m = xorAt (ks sub n8) off m := by
  rw [xorKeyStream, ksBlocks_eq]
  exact xorList_drop_map_range _ _ m off (by omega)

/-- the one induction on `xorAt`: what follows is read off core's lemmas about `mapIdx` -/
theorem xorAt_eq_mapIdx (k : Nat → Nat) : ∀ (m : Bytes) (off : Nat),
    xorAt k off m = m.mapIdx fun i b => b ^^^ k (off + i)
  | [], _ => rfl
  | b :: bs, off => by
    simp only [xorAt, xorAt_eq_mapIdx k bs, List.mapIdx_cons, Nat.add_zero, Nat.add_assoc, Nat.add_comm 1]

theorem xorAt_length (k : Nat → Nat) (m : Bytes) (off : Nat) : (xorAt k off m).length = m.length := by
  rw [xorAt_eq_mapIdx, List.length_mapIdx]

theorem xorAt_getElem? (k : Nat → Nat) : ∀ (m : Bytes) (off i : Nat),
    (xorAt k off m)[i]? = m[i]?.map (fun b => b ^^^ k (off + i)) := fun m off i => by
  rw [xorAt_eq_mapIdx, List.getElem?_mapIdx]

theorem xorAt_append (k : Nat → Nat) (a b : Bytes) (off : Nat) :
    xorAt k off (a ++ b) = xorAt k off a ++ xorAt k (off + a.length) b := by
  simp only [xorAt_eq_mapIdx, List.mapIdx_append, Nat.add_assoc, Nat.add_comm a.length]

theorem xorAt_take (k : Nat → Nat) : ∀ (n : Nat) (m : Bytes) (off : Nat),
    (xorAt k off m).take n = xorAt k off (m.take n) := fun n m off =>
  List.ext_getElem? fun i => by
    simp only [List.getElem?_take, xorAt_getElem?]
    split <;> rfl

theorem xorAt_drop (k : Nat → Nat) : ∀ (n : Nat) (m : Bytes) (off : Nat),
    (xorAt k off m).drop n = xorAt k (off + n) (m.drop n) := fun n m off =>
  List.ext_getElem? fun i => by simp only [List.getElem?_drop, xorAt_getElem?, Nat.add_assoc]

theorem xorAt_lt (k : Nat → Nat) (hk : ∀ i, k i < 256) (m : Bytes) (off : Nat) (hm : ∀ b ∈ m, b < 256) :
    ∀ b ∈ xorAt k off m, b < 256 := by
  simp only [xorAt_eq_mapIdx, List.mem_mapIdx]
  rintro _ ⟨i, h, rfl⟩
  exact Nat.xor_lt_two_pow (n := 8) (hm _ (List.getElem_mem h)) (hk _)

theorem xor_xor_eq_self_iff (b x y : Nat) : b ^^^ x ^^^ y = b ↔ x = y := by
  refine ⟨fun h => Nat.eq_of_testBit_eq fun i => ?_, fun h => by rw [h, Nat.xor_assoc, Nat.xor_self, Nat.xor_zero]⟩
  have := congrArg (·.testBit i) h
  cases hb : b.testBit i <;> simpa [Nat.testBit_xor, hb] using this

/-- XOR at positions `a …`, then at `b …`, gives the input back exactly where the two stretches of
    keystream agree -/
theorem xorAt_twice_eq_self_iff (k : Nat → Nat) (m : Bytes) (a b : Nat) :
    xorAt k b (xorAt k a m) = m ↔ ∀ j, j < m.length → k (a + j) = k (b + j) := by
  simp only [xorAt_eq_mapIdx, List.mapIdx_mapIdx, List.ext_getElem_iff, List.length_mapIdx, true_and,
    List.getElem_mapIdx, Function.comp, xor_xor_eq_self_iff]
  exact ⟨fun h j hj => h j hj hj, fun h j hj _ => h j hj⟩

/-- no range hypothesis: XOR with the same value twice is the identity on every natural -/
theorem xorAt_xorAt (k : Nat → Nat) (m : Bytes) (off : Nat) : xorAt k off (xorAt k off m) = m :=
  (xorAt_twice_eq_self_iff k m off off).2 fun _ _ => rfl

/-- first 32 bytes against positions `32 …`, the rest against positions `0 …` -/
def legacyXorAt (k : Nat → Nat) (m : Bytes) : Bytes := xorAt k 32 (m.take 32) ++ xorAt k 0 (m.drop 32)

theorem legacyXor_eq (key nonce m : Bytes) :
    legacyXor key nonce m = legacyXorAt (ks (subkey key nonce) (nonce8 nonce)) m := by
  simp only [legacyXor, legacyXorAt, xorKeyStream_eq]

theorem legacyXorAt_length (k : Nat → Nat) (m : Bytes) : (legacyXorAt k m).length = m.length := by
  rw [legacyXorAt, List.length_append, xorAt_length, xorAt_length, ← List.length_append, List.take_append_drop]

/-- up to 32 bytes the legacy transformation is the secretbox one -/
theorem legacyXorAt_short (k : Nat → Nat) (m : Bytes) (h : m.length ≤ 32) : legacyXorAt k m = xorAt k 32 m := by
  rw [legacyXorAt, List.take_of_length_le h, List.drop_eq_nil_of_le h, xorAt, List.append_nil]

/-- the legacy transformation is an involution, across the 32-byte boundary -/
theorem legacyXorAt_involutive (k : Nat → Nat) (m : Bytes) : legacyXorAt k (legacyXorAt k m) = m := by
  by_cases h : m.length ≤ 32
  · rw [legacyXorAt_short k m h, legacyXorAt_short k _ (by rwa [xorAt_length]), xorAt_xorAt]
  · have hl : (xorAt k 32 (m.take 32)).length = 32 := by rw [xorAt_length, List.length_take]; omega
    rw [legacyXorAt, legacyXorAt, List.take_left' hl, List.drop_left' hl, xorAt_xorAt, xorAt_xorAt,
      List.take_append_drop]

/-- what the secretbox transformation makes of a legacy ciphertext: the first 32 bytes are right,
    byte `32+j` comes out as `m[32+j] ^ k j ^ k (64+j)` -/
theorem xorAt_legacyXorAt (k : Nat → Nat) (m : Bytes) :
    xorAt k 32 (legacyXorAt k m) = m.take 32 ++ xorAt k 64 (xorAt k 0 (m.drop 32)) := by
  unfold legacyXorAt
  rw [xorAt_append, xorAt_xorAt, xorAt_length]
  by_cases h : 32 ≤ m.length
  · rw [show 32 + (m.take 32).length = 64 by simp; omega]
  · rw [List.drop_eq_nil_of_le (by omega)]
    simp [xorAt]

theorem legacyXorAt_lt (k : Nat → Nat) (hk : ∀ i, k i < 256) (m : Bytes) (hm : ∀ b ∈ m, b < 256) :
    ∀ b ∈ legacyXorAt k m, b < 256 := by
  intro b hb
  rcases List.mem_append.mp hb with h | h
  · exact xorAt_lt k hk _ _ (fun y hy => hm y (List.mem_of_mem_take hy)) b h
  · exact xorAt_lt k hk _ _ (fun y hy => hm y (List.mem_of_mem_drop hy)) b h

theorem natLE_length : ∀ (n x : Nat), (natLE n x).length = n
  | 0, _ => rfl
  | n + 1, x => by simp [natLE, natLE_length n]

theorem natLE_lt : ∀ (n x : Nat), ∀ b ∈ natLE n x, b < 256
  | 0, _ => by simp [natLE]
  | n + 1, x => by simpa [natLE, Nat.mod_lt] using natLE_lt n (x / 256)

theorem poly1305_length (key msg : Bytes) : (poly1305 key msg).length = 16 := natLE_length _ _

theorem poly1305_lt (key msg : Bytes) : ∀ b ∈ poly1305 key msg, b < 256 := natLE_lt _ _

theorem macKey_length (key nonce : Bytes) : (macKey key nonce).length = 32 := by
  simp [macKey, salsa20Block_length]

/-! ## the shape the two formats share

Both are `tag ‖ f m` with the Poly1305 tag of `f m` under a MAC key `mk`, and open by comparing the
tag and applying `f` again; they differ in the stream transformation `f` only. -/

def sealWith (mk : Bytes) (f : Bytes → Bytes) (m : Bytes) : Bytes := poly1305 mk (f m) ++ f m

def openWith (mk : Bytes) (f : Bytes → Bytes) (box : Bytes) : Option Bytes :=
  if box.length < 16 then none
  else if box.take 16 = poly1305 mk (box.drop 16) then some (f (box.drop 16)) else none

theorem take_tag (k c : Bytes) : (poly1305 k c ++ c).take 16 = poly1305 k c :=
  List.take_left' (poly1305_length k c)

theorem drop_tag (k c : Bytes) : (poly1305 k c ++ c).drop 16 = c :=
  List.drop_left' (poly1305_length k c)

/-- acceptance is the tag comparison, whatever `f` is -/
theorem openWith_eq_some_iff (mk : Bytes) (f : Bytes → Bytes) (box m : Bytes) :
    openWith mk f box = some m ↔
      16 ≤ box.length ∧ box.take 16 = poly1305 mk (box.drop 16) ∧ m = f (box.drop 16) := by
  unfold openWith
  split
  · simp; omega
  · split
    · simp [*, eq_comm]; omega
    · simp [*]

/-- … so the two formats accept the same boxes -/
theorem openWith_isSome (mk : Bytes) (f g : Bytes → Bytes) (box : Bytes) :
    (openWith mk f box).isSome = (openWith mk g box).isSome := by
  unfold openWith
  split
  · rfl
  · split <;> rfl

/-- what one format sealed the other opens as well, to `g (f m)` -/
theorem openWith_sealWith (mk : Bytes) (g f : Bytes → Bytes) (m : Bytes) :
    openWith mk g (sealWith mk f m) = some (g (f m)) := by
  rw [openWith_eq_some_iff, sealWith, take_tag, drop_tag]
  simp [poly1305_length]

theorem sealWith_length (mk : Bytes) (f : Bytes → Bytes) (m : Bytes) :
    (sealWith mk f m).length = 16 + (f m).length := by
  rw [sealWith, List.length_append, poly1305_length]

theorem sealWith_lt (mk : Bytes) (f : Bytes → Bytes) (m : Bytes) (hf : ∀ b ∈ f m, b < 256) :
    ∀ b ∈ sealWith mk f m, b < 256 := by
  intro b hb
  rcases List.mem_append.mp hb with h | h
  · exact poly1305_lt _ _ b h
  · exact hf b h

end S3db.Box
