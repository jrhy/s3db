import S3db.Model.Scan
/-!
# Lemmas about the range-scan model (`Model/Scan.lean`), used by `Props/C06.lean`

The window computed by `Filter` excludes no key that satisfies the constraints (`window_inWin`, no
order law needed).  Over a sorted list the `Next` loop followed by ANY re-check `p` that only accepts
keys of the window is the filter of the live keys (`filter_nextAsc`); a descending scan is the
ascending scan of the mirrored window under the negated comparison (`nextDesc_eq_nextAsc`), so
`filter_nextDesc` is the same theorem.  The seek (`ceilFrom`, `descFrom`) only drops entries outside
the window, which gives `filter_scan`: seek + `Next` loop + re-check, both directions.
-/
namespace S3db.Scan

variable {K : Type}

/-- the window `w` does not exclude the key `k` -/
def InWin (cmp : K → K → Int) (w : Win K) (k : K) : Prop :=
  (∀ m, w.min = some m → cmp k m ≥ 0 ∧ (w.gtMin = true → cmp k m > 0)) ∧
  (∀ m, w.max = some m → cmp k m ≤ 0 ∧ (w.ltMax = true → cmp k m < 0))

/-- what `addCon` does with an upper bound `x` (strict iff `s`): it replaces a missing or larger one -/
def setMax (cmp : K → K → Int) (w : Win K) (x : K) (s : Bool) : Win K :=
  match w.max with
  | none => { w with max := some x, ltMax := s }
  | some m => if cmp x m < 0 then { w with max := some x, ltMax := s } else w

/-- … and with a lower bound -/
def setMin (cmp : K → K → Int) (w : Win K) (x : K) (s : Bool) : Win K :=
  match w.min with
  | none => { w with min := some x, gtMin := s }
  | some m => if cmp x m > 0 then { w with min := some x, gtMin := s } else w

theorem InWin.setMax {cmp : K → K → Int} {w : Win K} {k x : K} {s : Bool} (h : InWin cmp w k)
    (hle : cmp k x ≤ 0) (hlt : s = true → cmp k x < 0) : InWin cmp (setMax cmp w x s) k := by
  have new : InWin cmp { w with max := some x, ltMax := s } k :=
    ⟨h.1, fun m hm => by cases hm; exact ⟨hle, hlt⟩⟩
  unfold Scan.setMax
  split
  · exact new
  · split
    · exact new
    · exact h

theorem InWin.setMin {cmp : K → K → Int} {w : Win K} {k x : K} {s : Bool} (h : InWin cmp w k)
    (hge : cmp k x ≥ 0) (hgt : s = true → cmp k x > 0) : InWin cmp (setMin cmp w x s) k := by
  have new : InWin cmp { w with min := some x, gtMin := s } k :=
    ⟨fun m hm => by cases hm; exact ⟨hge, hgt⟩, h.2⟩
  unfold Scan.setMin
  split
  · exact new
  · split
    · exact new
    · exact h

/-- `addCon cmp w (op, x)` is `setMax`, `setMin` or (for `=`) both, by computation -/
theorem addCon_inWin (cmp : K → K → Int) (w : Win K) (c : Con K) (k : K)
    (hw : InWin cmp w k) (hc : sat1 cmp k c = true) : InWin cmp (addCon cmp w c) k := by
  obtain ⟨op, x⟩ := c
  cases op <;> simp only [sat1, beq_iff_eq, decide_eq_true_eq] at hc
  · exact (hw.setMax (s := false) (by omega) nofun).setMin (s := false) (by omega) nofun
  · exact hw.setMax (s := true) (by omega) fun _ => hc
  · exact hw.setMax (s := false) hc nofun
  · exact hw.setMin (s := false) hc nofun
  · exact hw.setMin (s := true) (by omega) fun _ => hc

/-- `window_sound`: the window computed by `Filter` excludes no satisfying key -/
theorem window_inWin (cmp : K → K → Int) (cs : List (Con K)) (k : K) (h : sat cmp cs k = true) :
    InWin cmp (window cmp cs) k :=
  List.foldlRecOn (motive := fun w => InWin cmp w k) cs (addCon cmp) ⟨nofun, nofun⟩ fun w hw c hc =>
    addCon_inWin cmp w c k hw (List.all_eq_true.mp h c hc)

/-- the keys of the entries that are not delete markers -/
def liveKeys (es : List (Ent K)) : List K := (es.filter fun e => !e.2).map (·.1)

theorem liveKeys_cons (k : K) (d : Bool) (es : List (Ent K)) :
    liveKeys ((k, d) :: es) = if d then liveKeys es else k :: liveKeys es := by
  cases d <;> simp [liveKeys]

theorem liveKeys_append (xs ys : List (Ent K)) : liveKeys (xs ++ ys) = liveKeys xs ++ liveKeys ys := by
  simp [liveKeys]

theorem liveKeys_reverse (xs : List (Ent K)) : liveKeys xs.reverse = (liveKeys xs).reverse := by
  simp [liveKeys, List.filter_reverse]

theorem filter_liveKeys_eq_nil (p : K → Bool) (es : List (Ent K)) (h : ∀ e ∈ es, p e.1 = false) :
    (liveKeys es).filter p = [] := by
  rw [List.filter_eq_nil_iff]
  intro k hk
  simp only [liveKeys, List.mem_map, List.mem_filter] at hk
  obtain ⟨e, ⟨he, _⟩, rfl⟩ := hk
  simp [h e he]

/-- strictly increasing keys, as a `Pairwise` -/
abbrev Asc (cmp : K → K → Int) (es : List (Ent K)) : Prop := es.Pairwise fun a b => cmp a.1 b.1 < 0
/-- strictly decreasing keys -/
abbrev Desc (cmp : K → K → Int) (es : List (Ent K)) : Prop := es.Pairwise fun a b => cmp b.1 a.1 < 0

theorem sorted_iff_asc (cmp : K → K → Int) (es : List (Ent K)) : Sorted cmp es ↔ Asc cmp es := by
  induction es with
  | nil => simp [Sorted, Asc]
  | cons e es ih => simp [Sorted, Asc, List.pairwise_cons, ih]

theorem Asc.reverse {cmp : K → K → Int} {es : List (Ent K)} (h : Asc cmp es) : Desc cmp es.reverse := by
  simpa [Asc, Desc, List.pairwise_reverse] using h

/-- the stop test of an ascending `Next`: the `let stop` of `nextAsc` under a name -/
def stopAsc (cmp : K → K → Int) (w : Win K) (k : K) : Bool :=
  match w.max with
  | some m => (w.ltMax && decide (cmp k m ≥ 0)) || decide (cmp k m > 0)
  | none => false

/-- the test for skipping an excluded lower bound: the `let skipMin` of `nextAsc` -/
def skipAsc (cmp : K → K → Int) (w : Win K) (k : K) : Bool :=
  match w.min with
  | some m => w.gtMin && cmp k m == 0
  | none => false

theorem nextAsc_cons (cmp : K → K → Int) (w : Win K) (k : K) (d : Bool) (rest : List (Ent K)) :
    nextAsc cmp w ((k, d) :: rest) =
      if stopAsc cmp w k then []
      else
        let w' := if skipAsc cmp w k then { w with gtMin := false } else w
        if skipAsc cmp w k || d then nextAsc cmp w' rest else k :: nextAsc cmp w' rest :=
  rfl

theorem InWin.stopAsc {cmp : K → K → Int} (L : OrderLaws cmp) {w : Win K} {k k' : K}
    (h : InWin cmp w k') (hk : cmp k k' ≤ 0) : stopAsc cmp w k = false := by
  unfold Scan.stopAsc
  split
  · next m hm =>
    obtain ⟨hle, hlt⟩ := h.2 m hm
    have h1 := L.trans _ _ _ hk hle
    cases hl : w.ltMax
    · simpa using h1
    · have h2 := L.trans_lt' _ _ _ hk (hlt hl)
      simp; omega
  · rfl

theorem InWin.skipAsc {cmp : K → K → Int} {w : Win K} {k : K} (h : InWin cmp w k) :
    skipAsc cmp w k = false := by
  unfold Scan.skipAsc
  split
  · next m hm =>
    cases hg : w.gtMin
    · rfl
    · have := (h.1 m hm).2 hg
      simp; omega
  · rfl

theorem InWin.clear_gtMin {cmp : K → K → Int} {w : Win K} {k : K} (h : InWin cmp w k) :
    InWin cmp { w with gtMin := false } k :=
  ⟨fun m hm => ⟨(h.1 m hm).1, nofun⟩, h.2⟩

/-- ascending `Next` loop + re-check = filter of the live keys, for any re-check `p` that only
    accepts keys of the window -/
theorem filter_nextAsc {cmp : K → K → Int} (L : OrderLaws cmp) (p : K → Bool) :
    ∀ (xs : List (Ent K)) (w : Win K), (∀ k, p k = true → InWin cmp w k) → Asc cmp xs →
      (nextAsc cmp w xs).filter p = (liveKeys xs).filter p
  | [], _, _, _ => rfl
  | (k, d) :: rest, w, hw, hs => by
    obtain ⟨hk, hrest⟩ := List.pairwise_cons.mp hs
    rw [nextAsc_cons]
    split
    · next hstop =>
      -- no key from `k` on is in the window
      have hle : ∀ e ∈ (k, d) :: rest, cmp k e.1 ≤ 0 :=
        List.forall_mem_cons.2 ⟨Int.le_of_eq (L.refl k), fun e he => Int.le_of_lt (hk e he)⟩
      exact (filter_liveKeys_eq_nil p _ fun e he => Bool.eq_false_iff.mpr fun hp => by
        rw [(hw _ hp).stopAsc L (hle e he)] at hstop; cases hstop).symm
    · cases hskip : skipAsc cmp w k
      · cases d <;> simp [liveKeys_cons, List.filter_cons, filter_nextAsc L p rest w hw hrest]
      · have hk0 : p k = false := Bool.eq_false_iff.mpr fun hp => by
          rw [(hw k hp).skipAsc] at hskip; cases hskip
        cases d <;>
          simp [liveKeys_cons, hk0, filter_nextAsc L p rest _ (fun k hk => (hw k hk).clear_gtMin) hrest]

/-! ## a descending scan is the ascending scan of the mirrored window -/

/-- the window read downwards -/
def Win.swap (w : Win K) : Win K := { min := w.max, max := w.min, gtMin := w.ltMax, ltMax := w.gtMin }

/-- the comparison read downwards -/
def neg (cmp : K → K → Int) : K → K → Int := fun a b => - cmp a b

theorem nextDesc_eq_nextAsc (cmp : K → K → Int) :
    ∀ (xs : List (Ent K)) (w : Win K), nextDesc cmp w xs = nextAsc (neg cmp) w.swap xs
  | [], _ => rfl
  | (k, d) :: rest, w => by
    simp only [nextDesc, nextAsc, nextDesc_eq_nextAsc cmp rest, apply_ite Win.swap]
    simp only [Win.swap, neg, Int.neg_pos, Int.neg_nonneg, ge_iff_le, gt_iff_lt, Bool.beq_eq_decide_eq,
      Int.neg_eq_zero]

theorem OrderLaws.neg_eq {cmp : K → K → Int} (L : OrderLaws cmp) (a b : K) : neg cmp a b = cmp b a :=
  (L.antisymm b a).symm

theorem OrderLaws.neg {cmp : K → K → Int} (L : OrderLaws cmp) : OrderLaws (neg cmp) := by
  refine ⟨fun a => ?_, fun a b => ?_, fun a b c => ?_, fun a b c => ?_, fun a b c => ?_⟩ <;>
    simp only [L.neg_eq]
  · exact L.refl a
  · exact L.antisymm b a
  · exact fun h1 h2 => L.trans c b a h2 h1
  · exact fun h1 h2 => L.trans_lt' c b a h2 h1
  · exact fun h1 h2 => L.trans_lt c b a h2 h1

theorem inWin_swap {cmp : K → K → Int} {w : Win K} {k : K} (h : InWin cmp w k) : InWin (neg cmp) w.swap k := by
  simp only [InWin, Win.swap, neg, Int.neg_pos, Int.neg_nonneg, Int.neg_nonpos_iff, Int.neg_neg_iff_pos,
    ge_iff_le, gt_iff_lt]
  exact ⟨h.2, h.1⟩

theorem Desc.asc_neg {cmp : K → K → Int} (L : OrderLaws cmp) {es : List (Ent K)} (h : Desc cmp es) :
    Asc (neg cmp) es :=
  h.imp fun hab => by rwa [L.neg_eq]

theorem filter_nextDesc {cmp : K → K → Int} (L : OrderLaws cmp) (p : K → Bool) (xs : List (Ent K))
    (w : Win K) (hw : ∀ k, p k = true → InWin cmp w k) (hs : Desc cmp xs) :
    (nextDesc cmp w xs).filter p = (liveKeys xs).filter p := by
  rw [nextDesc_eq_nextAsc]
  exact filter_nextAsc L.neg p xs _ (fun k hk => inWin_swap (hw k hk)) (hs.asc_neg L)

/-- `Ceil min` only skips entries that fail the re-check -/
theorem filter_liveKeys_ceilFrom {cmp : K → K → Int} {p : K → Bool} {w : Win K}
    (hw : ∀ k, p k = true → InWin cmp w k) {m : K} (hm : w.min = some m) (es : List (Ent K)) :
    (liveKeys (ceilFrom cmp m es)).filter p = (liveKeys es).filter p := by
  conv => rhs; rw [← List.takeWhile_append_dropWhile (p := fun e : Ent K => decide (cmp e.1 m < 0)) (l := es)]
  rw [liveKeys_append, List.filter_append, filter_liveKeys_eq_nil p (es.takeWhile _), List.nil_append]
  · rfl
  · intro e he
    have hlt : cmp e.1 m < 0 := by simpa using List.all_eq_true.mp List.all_takeWhile e he
    exact Bool.eq_false_iff.mpr fun hp => by have := ((hw _ hp).1 m hm).1; omega

theorem Asc.ceilFrom {cmp : K → K → Int} {es : List (Ent K)} (h : Asc cmp es) (m : K) :
    Asc cmp (ceilFrom cmp m es) :=
  List.Pairwise.sublist (List.dropWhile_sublist _) h

/-- what a descending cursor visits after `Ceil max` (with the fall-back to `Max`): the keys below
    `max` and the first one not below it, backwards -/
theorem descFrom_eq (cmp : K → K → Int) (m : K) (es : List (Ent K)) :
    descFrom cmp true m es =
      (es.takeWhile (fun e => decide (cmp e.1 m < 0)) ++
        (es.dropWhile fun e => decide (cmp e.1 m < 0)).take 1).reverse := by
  unfold descFrom ceilFrom
  cases es.dropWhile fun e => decide (cmp e.1 m < 0) <;> simp

theorem Asc.descFrom {cmp : K → K → Int} {es : List (Ent K)} (h : Asc cmp es) (m : K) :
    Desc cmp (descFrom cmp true m es) := by
  rw [descFrom_eq]
  refine Asc.reverse (List.Pairwise.sublist ?_ h)
  conv => rhs; rw [← List.takeWhile_append_dropWhile (p := fun e : Ent K => decide (cmp e.1 m < 0)) (l := es)]
  exact (List.take_sublist 1 _).append_left _

/-- … and, up to entries that fail the re-check, it is all of the tree, backwards -/
theorem filter_liveKeys_descFrom {cmp : K → K → Int} (L : OrderLaws cmp) {p : K → Bool} {w : Win K}
    (hw : ∀ k, p k = true → InWin cmp w k) {m : K} (hm : w.max = some m) {es : List (Ent K)}
    (hs : Asc cmp es) :
    (liveKeys (descFrom cmp true m es)).filter p = ((liveKeys es).filter p).reverse := by
  rw [descFrom_eq, liveKeys_reverse, List.filter_reverse]
  congr 1
  have hes := List.takeWhile_append_dropWhile (p := fun e : Ent K => decide (cmp e.1 m < 0)) (l := es)
  have hhd := List.head?_dropWhile_not (fun e : Ent K => decide (cmp e.1 m < 0)) es
  conv => rhs; rw [← hes]
  -- all that is left out lies above the first key `e` not below `max`
  cases hdw : es.dropWhile fun e : Ent K => decide (cmp e.1 m < 0) with
  | nil => simp
  | cons e tl =>
    rw [hdw] at hes hhd
    have he : cmp e.1 m ≥ 0 := by simpa using hhd
    have htl : ∀ e' ∈ tl, p e'.1 = false := fun e' he' => Bool.eq_false_iff.mpr fun hp => by
      rw [← hes] at hs
      have h1 := (List.pairwise_cons.mp (List.pairwise_append.mp hs).2.1).1 e' he'
      have h2 := L.trans_lt e.1 e'.1 m h1 ((hw _ hp).2 m hm).1
      omega
    rw [List.take_succ_cons, List.take_zero, List.append_cons _ e tl, liveKeys_append _ tl,
      List.filter_append, filter_liveKeys_eq_nil p tl htl, List.append_nil]

/-- **the scan followed by any re-check that implies the pushed constraints** returns exactly the
    live keys passing the re-check, in scan order (`recheck`/`expected` and `recheckC`/`expectedC`
    unfold to the two sides, for `p` the conjunction of the constraints) -/
theorem filter_scan (F : Facts) (hF : F.descSeekFallsBackToMax = true) {cmp : K → K → Int}
    (L : OrderLaws cmp) (cs : List (Con K)) (p : K → Bool) (hp : ∀ k, p k = true → sat cmp cs k = true)
    (desc : Bool) {es : List (Ent K)} (hs : Sorted cmp es) :
    (scan F cmp desc cs es).filter p =
      if desc then ((liveKeys es).filter p).reverse else (liveKeys es).filter p := by
  have hw : ∀ k, p k = true → InWin cmp (window cmp cs) k := fun k hk => window_inWin cmp cs k (hp k hk)
  have ha : Asc cmp es := (sorted_iff_asc cmp es).mp hs
  cases desc <;> simp only [scan, Bool.not_false, Bool.not_true, if_true, Bool.false_eq_true, if_false, hF]
  · split
    · next m hm => rw [filter_nextAsc L p _ _ hw (ha.ceilFrom m), filter_liveKeys_ceilFrom hw hm]
    · exact filter_nextAsc L p _ _ hw ha
  · split
    · next m hm => rw [filter_nextDesc L p _ _ hw (ha.descFrom m), filter_liveKeys_descFrom L hw hm ha]
    · rw [filter_nextDesc L p _ _ hw ha.reverse, liveKeys_reverse, List.filter_reverse]

end S3db.Scan
