import S3db.Model.KeySpec
/-!
# Lemmas about `cmpInt`, `Bytes.cmp` and the exact double model `F64`

A comparison result is an `Int` in {-1, 0, 1}.  `lex h t` combines two of them lexicographically,
and each order law passes through it (`lex_range`, `lex_neg`, `lex_trans`).  So the laws of `cmpInt`
carry over to every comparison that is such a combination: `Bytes.cmp` (head, then tail: `cmp_cons`),
`F64.cmp` on non-NaN values (`cmpD_lex`: infinite or not, then the numerators over a common
denominator) and `sqliteCmp` (`sqliteCmp_lex` in `KeyOrder.lean`).

An integer meets a double at a common denominator as well (`cmpD_exact_at`); a double with exponent
`≥ 0` is the integer `toInt` makes of it (`scaled_int`), which covers `float64(i)` where it does not
round.  Core Lean only.
-/
namespace S3db

theorem cmpInt_of_lt {a b : Int} (h : a < b) : cmpInt a b = -1 := if_pos h

theorem cmpInt_self (a : Int) : cmpInt a a = 0 := by
  unfold cmpInt; rw [if_neg (Int.lt_irrefl a), if_neg (Int.lt_irrefl a)]

theorem cmpInt_of_gt {a b : Int} (h : b < a) : cmpInt a b = 1 := by
  unfold cmpInt; rw [if_neg (Int.lt_asymm h), if_pos h]

theorem cmpInt_spec (a b : Int) :
    a < b ∧ cmpInt a b = -1 ∨ a = b ∧ cmpInt a b = 0 ∨ b < a ∧ cmpInt a b = 1 := by
  rcases Int.lt_trichotomy a b with h | rfl | h
  · exact .inl ⟨h, cmpInt_of_lt h⟩
  · exact .inr (.inl ⟨rfl, cmpInt_self a⟩)
  · exact .inr (.inr ⟨h, cmpInt_of_gt h⟩)

theorem cmpInt_range (a b : Int) : cmpInt a b = -1 ∨ cmpInt a b = 0 ∨ cmpInt a b = 1 := by
  have := cmpInt_spec a b; omega

theorem cmpInt_antisymm (a b : Int) : cmpInt a b = - cmpInt b a := by
  have := cmpInt_spec a b; have := cmpInt_spec b a; omega

theorem cmpInt_le_zero (a b : Int) : cmpInt a b ≤ 0 ↔ a ≤ b := by
  have := cmpInt_spec a b; omega

theorem cmpInt_eq_zero (a b : Int) : cmpInt a b = 0 ↔ a = b := by
  have := cmpInt_spec a b; omega

theorem cmpInt_eq_neg_one (a b : Int) : cmpInt a b = -1 ↔ a < b := by
  have := cmpInt_spec a b; omega

theorem cmpInt_eq_one (a b : Int) : cmpInt a b = 1 ↔ b < a := by
  have := cmpInt_spec a b; omega

theorem cmpInt_mul_pos (a b p : Int) (hp : 0 < p) : cmpInt (a * p) (b * p) = cmpInt a b := by
  unfold cmpInt
  simp only [Int.mul_lt_mul_right hp]

/-- transitivity of a three-way comparison, with `x`, `y`, `z` its values on (a,b), (b,c), (a,c):
    covers `<`, `=` and `≤` at once -/
def Trans3 (x y z : Int) : Prop := x ≤ 0 → y ≤ 0 → z ≤ 0 ∧ (z = 0 → x = 0 ∧ y = 0)

theorem cmpInt_trans (a b c : Int) : Trans3 (cmpInt a b) (cmpInt b c) (cmpInt a c) := by
  intro h1 h2
  rw [cmpInt_le_zero] at h1 h2 ⊢
  rw [cmpInt_eq_zero, cmpInt_eq_zero, cmpInt_eq_zero]
  omega

def lex (h t : Int) : Int := if h = 0 then t else h

theorem lex_zero_right (h : Int) : lex h 0 = h := by
  unfold lex; split <;> omega

theorem lex_range {h t : Int} (hh : h = -1 ∨ h = 0 ∨ h = 1) (ht : t = -1 ∨ t = 0 ∨ t = 1) :
    lex h t = -1 ∨ lex h t = 0 ∨ lex h t = 1 := by
  unfold lex; split <;> assumption

theorem lex_neg (h t : Int) : lex (-h) (-t) = - lex h t := by
  unfold lex; split <;> split <;> omega

theorem lex_eq_zero (h t : Int) : lex h t = 0 ↔ h = 0 ∧ t = 0 := by
  unfold lex; split <;> omega

theorem lex_nonpos {h t : Int} (hl : lex h t ≤ 0) : h ≤ 0 ∧ (h = 0 → t ≤ 0) := by
  unfold lex at hl; split at hl <;> omega

theorem lex_trans {h1 h2 h3 t1 t2 t3 : Int} (H : Trans3 h1 h2 h3) (T : Trans3 t1 t2 t3) :
    Trans3 (lex h1 t1) (lex h2 t2) (lex h3 t3) := by
  intro hx hy
  obtain ⟨a1, b1⟩ := lex_nonpos hx
  obtain ⟨a2, b2⟩ := lex_nonpos hy
  obtain ⟨a3, z3⟩ := H a1 a2
  by_cases e : h3 = 0
  · obtain ⟨e1, e2⟩ := z3 e
    subst e e1 e2
    exact T (b1 rfl) (b2 rfl)
  · rw [show lex h3 t3 = h3 from if_neg e]
    exact ⟨a3, fun z => absurd z e⟩

namespace Bytes

theorem lt_iff (s t : Bytes) : lt s t = true ↔ cmp s t = -1 := by
  unfold lt; simp

theorem cmp_cons (x y : Nat) (xs ys : Bytes) :
    cmp (x :: xs) (y :: ys) = lex (cmpInt x y) (cmp xs ys) := by
  rcases Nat.lt_trichotomy x y with h | rfl | h
  · rw [cmpInt_of_lt (Int.ofNat_lt.2 h)]; exact if_pos h
  · rw [cmpInt_self]; simp [cmp, lex]
  · rw [cmpInt_of_gt (Int.ofNat_lt.2 h)]; simp [cmp, Nat.lt_asymm h, h, lex]

theorem cmp_range : ∀ a b : Bytes, cmp a b = -1 ∨ cmp a b = 0 ∨ cmp a b = 1
  | [], [] => .inr (.inl rfl)
  | [], _ :: _ => .inl rfl
  | _ :: _, [] => .inr (.inr rfl)
  | x :: xs, y :: ys => by
    rw [cmp_cons]; exact lex_range (cmpInt_range _ _) (cmp_range xs ys)

theorem cmp_refl : ∀ a : Bytes, cmp a a = 0
  | [] => rfl
  | x :: xs => by rw [cmp_cons, cmpInt_self, cmp_refl xs]; rfl

theorem cmp_antisymm : ∀ a b : Bytes, cmp a b = - cmp b a
  | [], [] => rfl
  | [], _ :: _ => rfl
  | _ :: _, [] => rfl
  | x :: xs, y :: ys => by
    rw [cmp_cons, cmp_cons, cmpInt_antisymm, cmp_antisymm xs ys, lex_neg]

theorem cmp_eq_zero : ∀ a b : Bytes, cmp a b = 0 ↔ a = b
  | [], [] => by simp [cmp]
  | [], _ :: _ => by simp [cmp]
  | _ :: _, [] => by simp [cmp]
  | x :: xs, y :: ys => by
    rw [cmp_cons, lex_eq_zero, cmpInt_eq_zero, cmp_eq_zero xs ys, List.cons.injEq, Int.ofNat_inj]

theorem cmp_trans : ∀ a b c : Bytes, Trans3 (cmp a b) (cmp b c) (cmp a c)
  | [], b, c => by cases b <;> cases c <;> simp [Trans3, cmp]
  | _ :: _, [], _ => by simp [Trans3, cmp]
  | _ :: _, _ :: _, [] => by simp [Trans3, cmp]
  | x :: xs, y :: ys, z :: zs => by
    rw [cmp_cons, cmp_cons, cmp_cons]; exact lex_trans (cmpInt_trans _ _ _) (cmp_trans xs ys zs)

end Bytes

namespace F64

theorem pow2_pos (n : Nat) : 0 < pow2 n := by
  unfold pow2; exact Int.pow_pos (by decide)

theorem pow2_add (a b : Nat) : pow2 (a + b) = pow2 a * pow2 b := by
  unfold pow2; exact Int.pow_add ..

theorem pow2_zero : pow2 0 = 1 := rfl

theorem pow2_cast (n : Nat) : pow2 n = ((2 ^ n : Nat) : Int) := by
  unfold pow2; simp

theorem signed_mul (neg : Bool) (m k : Nat) : signed neg m * (k : Int) = signed neg (m * k) := by
  unfold signed; cases neg <;> simp [Int.neg_mul]

theorem signed_exact (i : Int) : signed (decide (i < 0)) i.natAbs = i := by
  unfold signed
  by_cases h : i < 0 <;> simp [h] <;> omega

theorem scaled_self (neg : Bool) (m : Nat) (x : Int) : scaled neg m x x = signed neg m := by
  unfold scaled; simp [pow2_zero]

theorem scaled_lower (neg : Bool) (m : Nat) (x lo lo' : Int) (h1 : lo ≤ lo') (h2 : lo' ≤ x) :
    scaled neg m x lo = scaled neg m x lo' * pow2 (lo' - lo).toNat := by
  unfold scaled
  rw [show x - lo = (x - lo') + (lo' - lo) by omega, Int.toNat_add (by omega) (by omega), pow2_add,
    Int.mul_assoc]

/-- `F64.cmp` with the `none` (NaN) case read as 0, as `sqliteCmp` does -/
def cmpD (a b : F64) : Int := (cmp a b).getD 0

theorem cmp_eq_some_cmpD (a b : F64) (ha : a.isNaN = false) (hb : b.isNaN = false) :
    cmp a b = some (cmpD a b) := by
  cases a <;> cases b <;> first | rfl | exact Bool.noConfusion ha | exact Bool.noConfusion hb

theorem lt_iff (a b : F64) (ha : a.isNaN = false) (hb : b.isNaN = false) :
    lt a b = true ↔ cmpD a b = -1 := by
  unfold lt; rw [cmp_eq_some_cmpD a b ha hb]; simp

theorem gt_iff (a b : F64) (ha : a.isNaN = false) (hb : b.isNaN = false) :
    gt a b = true ↔ cmpD a b = 1 := by
  unfold gt; rw [cmp_eq_some_cmpD a b ha hb]; simp

theorem ge_iff (a b : F64) (ha : a.isNaN = false) (hb : b.isNaN = false) :
    ge a b = true ↔ cmpD a b = 1 ∨ cmpD a b = 0 := by
  unfold ge; rw [cmp_eq_some_cmpD a b ha hb]; simp

/-- two finite values compare as their numerators at *any* exponent below both -/
theorem cmpD_fin_at {n1 : Bool} {m1 : Nat} {x1 : Int} {n2 : Bool} {m2 : Nat} {x2 : Int} (lo : Int)
    (h1 : lo ≤ x1) (h2 : lo ≤ x2) :
    cmpD (.fin n1 m1 x1) (.fin n2 m2 x2) = cmpInt (scaled n1 m1 x1 lo) (scaled n2 m2 x2 lo) := by
  rw [scaled_lower n1 m1 x1 lo (min x1 x2) (Int.le_min.2 ⟨h1, h2⟩) (Int.min_le_left ..),
      scaled_lower n2 m2 x2 lo (min x1 x2) (Int.le_min.2 ⟨h1, h2⟩) (Int.min_le_right ..),
      cmpInt_mul_pos _ _ _ (pow2_pos _)]
  rfl

theorem cmpD_exact (i j : Int) : cmpD (exact i) (exact j) = cmpInt i j := by
  unfold exact
  rw [cmpD_fin_at 0 (Int.le_refl 0) (Int.le_refl 0), scaled_self, scaled_self, signed_exact,
    signed_exact]

def cls : F64 → Int
  | .inf n => if n then -1 else 1
  | _ => 0

/-- the numerator of a finite value over the common denominator `2^(-lo)` -/
def num (lo : Int) : F64 → Int
  | .fin n m x => scaled n m x lo
  | _ => 0

/-- the exponent of a finite value; the others put no bound on the common denominator -/
def expo : F64 → Int
  | .fin _ _ x => x
  | _ => 0

/-- non-NaN doubles are ordered by class, then (the finite ones) by numerator over a common
    denominator -/
theorem cmpD_lex (lo : Int) (a b : F64) (ha : a.isNaN = false) (hb : b.isNaN = false)
    (la : lo ≤ a.expo) (lb : lo ≤ b.expo) :
    cmpD a b = lex (cmpInt a.cls b.cls) (cmpInt (a.num lo) (b.num lo)) := by
  cases a with
  | nan => cases ha
  | inf n1 =>
    cases b with
    | nan => cases hb
    | inf n2 => cases n1 <;> cases n2 <;> rfl
    | fin n2 m2 x2 => cases n1 <;> rfl
  | fin n1 m1 x1 =>
    cases b with
    | nan => cases hb
    | inf n2 => cases n2 <;> rfl
    | fin n2 m2 x2 => exact cmpD_fin_at lo la lb

theorem cmpD_range (a b : F64) (ha : a.isNaN = false) (hb : b.isNaN = false) :
    cmpD a b = -1 ∨ cmpD a b = 0 ∨ cmpD a b = 1 := by
  rw [cmpD_lex (min a.expo b.expo) a b ha hb (Int.min_le_left ..) (Int.min_le_right ..)]
  exact lex_range (cmpInt_range _ _) (cmpInt_range _ _)

theorem cmpD_refl (a : F64) (ha : a.isNaN = false) : cmpD a a = 0 := by
  rw [cmpD_lex a.expo a a ha ha (Int.le_refl _) (Int.le_refl _), cmpInt_self, cmpInt_self]; rfl

theorem cmpD_antisymm (a b : F64) (ha : a.isNaN = false) (hb : b.isNaN = false) :
    cmpD a b = - cmpD b a := by
  rw [cmpD_lex (min a.expo b.expo) a b ha hb (Int.min_le_left ..) (Int.min_le_right ..),
      cmpD_lex (min a.expo b.expo) b a hb ha (Int.min_le_right ..) (Int.min_le_left ..),
      cmpInt_antisymm a.cls, cmpInt_antisymm (a.num _), lex_neg]

theorem cmpD_trans (a b c : F64) (ha : a.isNaN = false) (hb : b.isNaN = false)
    (hc : c.isNaN = false) : Trans3 (cmpD a b) (cmpD b c) (cmpD a c) := by
  have la := Int.min_le_left a.expo (min b.expo c.expo)
  have lb := Int.le_trans (Int.min_le_right a.expo _) (Int.min_le_left b.expo c.expo)
  have lc := Int.le_trans (Int.min_le_right a.expo _) (Int.min_le_right b.expo c.expo)
  rw [cmpD_lex _ a b ha hb la lb, cmpD_lex _ b c hb hc lb lc, cmpD_lex _ a c ha hc la lc]
  exact lex_trans (cmpInt_trans _ _ _) (cmpInt_trans _ _ _)

/-- `i < K ≤ r` gives `i < r` -/
theorem cmpD_exact_lt_of (i K : Int) (r : F64) (hr : r.isNaN = false) (h : i < K)
    (hK : cmpD r (exact K) = 1 ∨ cmpD r (exact K) = 0) : cmpD (exact i) r = -1 := by
  have T := cmpD_trans (exact i) (exact K) r rfl rfl hr
  rw [cmpD_exact, cmpInt_of_lt h, cmpD_antisymm _ r rfl hr] at T
  have := T (by decide) (by omega)
  have := cmpD_range (exact i) r rfl hr
  omega

/-- `r < K ≤ i` gives `r < i` -/
theorem cmpD_exact_gt_of (i K : Int) (r : F64) (hr : r.isNaN = false) (h : K ≤ i)
    (hK : cmpD r (exact K) = -1) : cmpD (exact i) r = 1 := by
  have T := cmpD_trans r (exact K) (exact i) hr rfl rfl
  rw [cmpD_exact, hK, cmpD_antisymm r _ hr rfl] at T
  have := T (by decide) ((cmpInt_le_zero K i).2 h)
  have := cmpD_range (exact i) r rfl hr
  omega

/-- a value with exponent `x ≥ 0` is the integer `int64` makes of it; its numerator at a level
    `lo ≤ 0` -/
theorem scaled_int {s : Bool} {m : Nat} {x lo : Int} (hx : 0 ≤ x) (h : lo ≤ 0) :
    scaled s m x lo = toInt (.fin s m x) * pow2 (-lo).toNat := by
  unfold scaled
  rw [show toInt (.fin s m x) = signed s (m * 2^x.toNat) from if_pos hx,
    Int.sub_eq_add_neg, Int.toNat_add hx (Int.neg_nonneg_of_nonpos h), pow2_add, ← Int.mul_assoc,
    pow2_cast, signed_mul]

theorem toInt_exact (i : Int) : toInt (exact i) = i := by
  simp [toInt, exact, signed_exact]

theorem cmpD_exact_at (J : Int) {s : Bool} {m : Nat} {x : Int} (lo : Int) (h0 : lo ≤ 0)
    (hx : lo ≤ x) :
    cmpD (exact J) (.fin s m x) = cmpInt (J * pow2 (-lo).toNat) (scaled s m x lo) := by
  rw [exact, cmpD_fin_at lo h0 hx, scaled_int (Int.le_refl 0) h0,
    show toInt (.fin _ _ 0) = J from toInt_exact J]

/-- `int64(r)` is `r` rounded toward zero, so any other integer compares with `r` as it does
    with `int64(r)` -/
theorem cmpD_exact_toInt (J : Int) (s : Bool) (m : Nat) (x : Int) (h : J ≠ toInt (.fin s m x)) :
    cmpD (exact J) (.fin s m x) = cmpInt J (toInt (.fin s m x)) := by
  by_cases hx : 0 ≤ x
  · -- `r` is an integer
    rw [cmpD_exact_at J 0 (Int.le_refl 0) hx, scaled_int hx (Int.le_refl 0),
      cmpInt_mul_pos _ _ _ (pow2_pos _)]
  · -- `J·P` against `±m`, where `int64(r) = ±(m / P)` and `(m / P)·P ≤ m < (m / P)·P + P`
    rw [show toInt (.fin s m x) = signed s (m / 2^(-x).toNat) from if_neg hx] at h ⊢
    rw [cmpD_exact_at J x (by omega) (Int.le_refl x), scaled_self, pow2_cast]
    have d1 := Nat.div_mul_le_self m (2^(-x).toNat)
    have d2 := Nat.lt_div_mul_add (a := m) (Nat.pow_pos (n := (-x).toNat) (show 0 < 2 by decide))
    generalize 2^(-x).toNat = P at *
    generalize m / P = d at *
    have b : signed s (d * P) - P < signed s m ∧ signed s m < signed s (d * P) + P := by
      unfold signed; cases s <;> simp <;> omega
    rcases Int.lt_or_gt_of_ne h with h | h
    · have := Int.mul_le_mul_of_nonneg_right (Int.add_one_le_of_lt h) (Int.natCast_nonneg P)
      rw [Int.add_mul, signed_mul] at this
      rw [cmpInt_of_lt h, cmpInt_of_lt (by omega)]
    · have := Int.mul_le_mul_of_nonneg_right (Int.add_one_le_of_lt h) (Int.natCast_nonneg P)
      rw [Int.add_mul, signed_mul] at this
      rw [cmpInt_of_gt h, cmpInt_of_gt (by omega)]

theorem natAbs_signed (s : Bool) (n : Nat) : (signed s n).natAbs = n := by
  unfold signed; cases s <;> simp

/-- `int64(r)` has no more significant bits than `r` -/
theorem toInt_repr (s : Bool) (m : Nat) (x : Int) :
    ∃ m' e : Nat, m' ≤ m ∧ (toInt (.fin s m x)).natAbs = m' * 2^e := by
  simp only [toInt]
  split
  · exact ⟨m, x.toNat, Nat.le_refl m, natAbs_signed ..⟩
  · exact ⟨_, 0, Nat.div_le_self .., (natAbs_signed ..).trans (Nat.mul_one _).symm⟩

theorem ofBits_fin_bound (b : Nat) (s : Bool) (m : Nat) (x : Int) (h : ofBits b = .fin s m x) :
    m < 2^53 := by
  unfold ofBits at h
  simp only at h
  split at h
  · split at h <;> cases h
  · split at h <;> cases h <;> omega

theorem bitLen_le (n k : Nat) (h : n < 2^k) : bitLen n ≤ k := by
  cases n with
  | zero => exact Nat.zero_le k
  | succ n =>
    have := (Nat.log2_lt (n := n+1) (k := k) (by omega)).2 h
    show Nat.log2 (n + 1) + 1 ≤ k
    omega

/-- `float64(i)` is exact (no rounding) whenever `|i| = m·2^e` with a 53-bit `m` -/
theorem ofInt_repr (i : Int) (m e : Nat) (hm : m < 2^53) (hi : i.natAbs = m * 2^e) :
    ∃ s q x, ofInt i = .fin s q x ∧ 0 ≤ x ∧ toInt (.fin s q x) = i := by
  by_cases hn : i.natAbs < 2^53
  · exact ⟨_, _, 0, if_pos hn, Int.le_refl 0, toInt_exact i⟩
  · -- the `k` low bits that are dropped are among the `e` zero bits of `|i|`: nothing to round
    have hb := bitLen_le i.natAbs (53 + e) (by
      rw [hi, Nat.pow_add]
      exact Nat.mul_lt_mul_of_lt_of_le hm (Nat.le_refl _) (Nat.pow_pos (by decide)))
    refine ⟨_, _, _, if_neg hn, Int.natCast_nonneg _, ?_⟩
    generalize hk : bitLen i.natAbs - 53 = k
    have hdvd : 2^k ∣ i.natAbs :=
      hi ▸ Nat.dvd_trans (Nat.pow_dvd_pow 2 (show k ≤ e by omega)) (Nat.dvd_mul_left ..)
    have := Nat.pow_pos (n := k - 1) (show 0 < 2 by decide)
    rw [Nat.mod_eq_zero_of_dvd hdvd, if_neg (by simp; omega)]
    simp [toInt, Nat.div_mul_cancel hdvd, signed_exact]

theorem cmpD_ofInt (i : Int) (m e : Nat) (hm : m < 2^53) (hi : i.natAbs = m * 2^e) (r : F64) :
    cmpD (ofInt i) r = cmpD (exact i) r := by
  obtain ⟨s, q, x, h, hx, hq⟩ := ofInt_repr i m e hm hi
  rw [h]
  cases r with
  | nan => rfl
  | inf n => rfl
  | fin s2 m2 x2 =>
    have h0 := Int.min_le_left 0 x2
    rw [cmpD_exact_at i _ h0 (Int.min_le_right ..), cmpD_fin_at _ (Int.le_trans h0 hx) (Int.min_le_right ..),
      scaled_int hx h0, hq]

theorem ofInt_notNaN (i : Int) : (ofInt i).isNaN = false := by
  unfold ofInt; simp only; split <;> rfl

end F64
end S3db
