import S3db.Model.Proto
import S3db.Gen.Facts
import S3db.Lemmas.JoinList
/-!
# Helper lemmas for C03 / C11 / C13: the inductive invariant of the bucket protocol

1. the generated facts, specialised once (`commitReqs_eq`, `openLocs_eq`, …);
2. `step` as a relation with one constructor per case (`StepRel`, `step_ind`): a step of client
   `i` leaves the system `setClient g i c'`, a new shared state `g` and a new client `c'`;
3. what every step preserves without any invariant (`Later`, `Upd`: registry grows by appending,
   `stored` and `root/merged/` grow, `ro` flags are constant);
4. the invariant `Inv` (global part `GInv`, per-client part `CInv`, trace part `TInv`), preserved by
   every step, hence true of every reachable state.

Core Lean only.
-/
namespace S3db.ProtoInv
open S3db S3db.Proto S3db.JoinList
abbrev F : Facts := S3db.Gen.facts

theorem retireReqs_eq (n p : Nat) : retireReqs F n p = retire n p := by
  simp [retireReqs, retire, S3db.Gen.facts]

theorem commitReqs_eq (n : Nat) (ps : List Nat) : commitReqs F n ps = reqs n ps := by
  have h1 : retireReqs F n = retire n := funext (retireReqs_eq n)
  have h2 : F.commitOrder = ["flushNodes", "putRoot", "retireParents"] := rfl
  unfold commitReqs
  rw [h2, h1]
  simp [reqs]

theorem openLocs_eq : openLocs F = [.current, .merged] := by decide
theorem historicLocs_eq : historicLocs F = [.current, .merged] := by decide
theorem roCommitBlocked_eq : roCommitBlocked F = true := by decide
theorem openCommitsOnlyIfRW_eq : F.openCommitsOnlyIfRW = true := rfl

/-- one step of the client `c` at index `i`: the shared state becomes `g` and the client `c'`,
    so the system becomes `setClient g i c'` -/
inductive StepRel (s : Sys) (i : Nat) (c : Client) : Sys → Client → Prop
  | crash : StepRel s i c s { c with alive := false, queue := [], opening := false, committing := none }
  | startOpen (hq : c.queue = []) (ho : c.opening = false) :
      StepRel s i c s { c with opening := true, queue := [.list], toLoad := [], loaded := [] }
  | startCommit (hq : c.queue = []) (ho : c.opening = false) (hro : c.ro = false) :
      StepRel s i c { s with vers := s.vers ++ [c.source] }
        { c with queue := reqs s.vers.length c.source, committing := some s.vers.length }
  | list (rest : List Req) (hq : c.queue = .list :: rest) :
      StepRel s i c (serve s i .list)
        { c with queue := rest, toLoad := s.bucket.current, tryLocs := none, loaded := [], seen := s.stored }
  | req (r : Req) (rest : List Req) (hq : c.queue = r :: rest) (hr : r ≠ .list)
      (hne : ∀ n, rest = [] → c.committing ≠ some n) :
      StepRel s i c (serve s i r) { c with queue := rest }
  | reqLast (r : Req) (n : Nat) (hq : c.queue = [r]) (hr : r ≠ .list) (hcm : c.committing = some n) :
      StepRel s i c { serve s i r with acked := addNew n s.acked }
        { c with queue := [], committing := none, source := [n] }
  | skip (v : Nat) (more : List Nat) (hq : c.queue = []) (ho : c.opening = true)
      (hl : c.toLoad = v :: more) (ht : c.tryLocs.getD [.current, .merged] = []) :
      StepRel s i c s { c with toLoad := more, tryLocs := none }
  | hit (v : Nat) (more : List Nat) (l : Loc) (ls : List Loc) (hq : c.queue = []) (ho : c.opening = true)
      (hl : c.toLoad = v :: more) (ht : c.tryLocs.getD [.current, .merged] = l :: ls)
      (hh : s.bucket.has l v = true) :
      StepRel s i c (serve s i (.get l v)) { c with toLoad := more, tryLocs := none, loaded := c.loaded ++ [v] }
  | miss (v : Nat) (more : List Nat) (l : Loc) (ls : List Loc) (hq : c.queue = []) (ho : c.opening = true)
      (hl : c.toLoad = v :: more) (ht : c.tryLocs.getD [.current, .merged] = l :: ls)
      (hh : s.bucket.has l v = false) :
      StepRel s i c (serve s i (.get l v)) { c with tryLocs := some ls }
  | openCommit (hq : c.queue = []) (ho : c.opening = true) (hl : c.toLoad = []) (hro : c.ro = false)
      (hlen : 2 ≤ c.loaded.length) :
      StepRel s i c { s with vers := s.vers ++ [c.loaded] }
        { c with opening := false, source := c.loaded, queue := reqs s.vers.length c.loaded,
                 committing := some s.vers.length }
  | openDone (hq : c.queue = []) (ho : c.opening = true) (hl : c.toLoad = []) :
      StepRel s i c s { c with opening := false, source := c.loaded }

/-- a property that holds of `s` and of every `StepRel` successor holds of `stepClient F s i c` -/
theorem stepClient_ind {P : Sys → Prop} (s : Sys) (i : Nat) (c : Client) (h0 : P s)
    (h1 : ∀ g c', StepRel s i c g c' → P (setClient g i c')) : P (stepClient F s i c) := by
  unfold stepClient
  split
  · next rest hq => exact h1 _ _ (.list rest hq)
  · next r rest hr hq =>
    unfold finishIfDone
    split
    · next n hrest hcm =>
      cases (hrest : rest = [])
      exact h1 _ _ (.reqLast r n hq hr hcm)
    · next h => exact h1 _ _ (.req r rest hq hr h)
  · next hq =>
    split
    · next ho =>
      split
      · next v more hl =>
        rw [openLocs_eq]
        split
        · next ht => exact h1 _ _ (.skip v more hq ho hl ht)
        · next l ls ht =>
          split
          · next hh => exact h1 _ _ (.hit v more l ls hq ho hl ht hh)
          · next hh => exact h1 _ _ (.miss v more l ls hq ho hl ht (Bool.eq_false_iff.mpr hh))
      · next hl =>
        rw [openCommitsOnlyIfRW_eq]
        split
        · next hcond =>
          simp at hcond
          simp only [beginCommit, commitReqs_eq]
          exact h1 _ _ (.openCommit hq ho hl hcond.1 hcond.2)
        · exact h1 _ _ (.openDone hq ho hl)
    · exact h0

/-- a property that holds of `s` and of every `StepRel` successor holds of `step F s i a` -/
theorem step_ind {P : Sys → Prop} (s : Sys) (i : Nat) (a : Act) (h0 : P s)
    (h1 : ∀ c g c', s.clients[i]? = some c → StepRel s i c g c' → P (setClient g i c')) :
    P (step F s i a) := by
  unfold step
  split
  · exact h0
  · next c hc =>
    split
    · exact h0
    · split
      · exact h1 c _ _ hc .crash
      · split
        · next h =>
          simp at h
          exact h1 c _ _ hc (.startOpen h.1 h.2)
        · exact h0
      · split
        · next h =>
          simp at h
          rw [roCommitBlocked_eq]
          split
          · exact h0
          · next h2 =>
            simp at h2
            simp only [beginCommit, commitReqs_eq]
            exact h1 c _ _ hc (.startCommit h.1 h.2 h2)
        · exact h0
      · exact stepClient_ind s i c h0 (h1 c · · hc)

/-! ## the registry and ancestry -/

theorem getD_append_lt {vers extra : List (List Nat)} {n : Nat} (h : n < vers.length) :
    (vers ++ extra).getD n [] = vers.getD n [] := by
  simp [List.getD_eq_getElem?_getD, List.getElem?_append_left h]

theorem getD_ge {vers : List (List Nat)} {n : Nat} (h : vers.length ≤ n) : vers.getD n [] = [] := by
  simp [List.getD_eq_getElem?_getD, List.getElem?_eq_none h]

theorem getD_append_self (vers : List (List Nat)) (ps : List Nat) :
    (vers ++ [ps]).getD vers.length [] = ps := by
  simp [List.getD_eq_getElem?_getD]

theorem mem_getD_append {vers extra : List (List Nat)} {n p : Nat} (h : p ∈ vers.getD n []) :
    p ∈ (vers ++ extra).getD n [] := by
  by_cases hn : n < vers.length
  · rwa [getD_append_lt hn]
  · rw [getD_ge (by omega)] at h; cases h

theorem _root_.S3db.Proto.Anc.append {vers : List (List Nat)} (extra : List (List Nat)) {v n : Nat} (h : Anc vers v n) :
    Anc (vers ++ extra) v n := by
  induction h with
  | refl => exact .refl _
  | step hp _ ih => exact .step (mem_getD_append hp) ih

theorem _root_.S3db.Proto.Anc.trans {vers : List (List Nat)} {v p n : Nat} (h1 : Anc vers v p) (h2 : Anc vers p n) :
    Anc vers v n := by
  induction h2 with
  | refl => exact h1
  | step hp _ ih => exact .step hp ih

theorem _root_.S3db.Proto.Anc.le {vers : List (List Nat)} (hlt : ∀ n p, p ∈ vers.getD n [] → p < n) {v n : Nat}
    (h : Anc vers v n) : v ≤ n := by
  induction h with
  | refl => exact Nat.le_refl _
  | step hp _ ih => exact Nat.le_trans ih (Nat.le_of_lt (hlt _ _ hp))

/-! ## the shape of a commit's request list -/

/-- the effect of an already served request is still there (`stored` and `root/merged/` only grow) -/
def Served (stored merged : List Nat) : Req → Prop
  | .putCur v => v ∈ stored
  | .putMerged v => v ∈ merged
  | _ => True

theorem mem_reqs {n : Nat} {ps : List Nat} {r : Req} (h : r ∈ reqs n ps) :
    r = .putNodes n ∨ r = .putCur n ∨ ∃ p, p ∈ ps ∧ p ≠ n ∧ (r = .putMerged p ∨ r = .delCur p) := by
  unfold reqs at h
  rcases List.mem_cons.mp h with h | h
  · exact Or.inl h
  rcases List.mem_cons.mp h with h | h
  · exact Or.inr (Or.inl h)
  · exact Or.inr (Or.inr (mem_retireAll h))

theorem mutation_of_mem_reqs {n : Nat} {ps : List Nat} {r : Req} (h : r ∈ reqs n ps) :
    r.mutation = true := by
  rcases mem_reqs h with rfl | rfl | ⟨p, _, _, rfl | rfl⟩ <;> rfl

theorem putCur_mem_reqs (n : Nat) (ps : List Nat) : Req.putCur n ∈ reqs n ps := by
  simp [reqs]

/-- inside the retire list, `DELETE root/current/p` comes after `PUT root/merged/p` -/
theorem putMerged_before_delCur {n : Nat} {ps : List Nat} {pre rest : List Req} {p : Nat}
    (h : pre ++ .delCur p :: rest = ps.flatMap (retire n)) : .putMerged p ∈ pre := by
  induction ps generalizing pre with
  | nil => simp at h
  | cons q qs ih =>
    rw [List.flatMap_cons] at h
    by_cases hnq : n = q
    · have e : retire n q = [] := by simp [retire, hnq]
      rw [e] at h
      exact ih h
    · have e : retire n q = [.putMerged q, .delCur q] := by simp [retire, hnq]
      rw [e] at h
      match pre, h with
      | [], h => simp at h
      | [x], h =>
        simp at h
        obtain ⟨h1, h2, _⟩ := h
        subst h1; subst h2
        exact List.mem_cons_self ..
      | x :: y :: pre', h =>
        simp at h
        obtain ⟨_, _, h⟩ := h
        exact List.mem_cons_of_mem _ (List.mem_cons_of_mem _ (ih h))

/-- the request `r` at the head of a commit's pending queue, the requests `pre` before it having
    been served: a parent is deleted from `root/current/` only when it is in `root/merged/` and the
    child is stored -/
theorem reqs_head {stored merged : List Nat} {n : Nat} {ps : List Nat} {pre rest : List Req} {r : Req}
    (h : pre ++ r :: rest = reqs n ps) (hs : ∀ x, x ∈ pre → Served stored merged x) :
    r = .putNodes n ∨ r = .putCur n ∨
    ∃ p, p ∈ ps ∧ (r = .putMerged p ∨ (r = .delCur p ∧ p ∈ merged ∧ n ∈ stored)) := by
  unfold reqs at h
  match pre, h with
  | [], h => simp at h; exact Or.inl h.1
  | [x], h => simp at h; exact Or.inr (Or.inl h.2.1)
  | x :: y :: pre', h =>
    simp at h
    obtain ⟨_, rfl, h⟩ := h
    have hr : r ∈ ps.flatMap (retire n) := by rw [← h]; simp
    obtain ⟨p, hp, _, rfl | rfl⟩ := mem_retireAll hr
    · exact Or.inr (Or.inr ⟨p, hp, Or.inl rfl⟩)
    · refine Or.inr (Or.inr ⟨p, hp, Or.inr ⟨rfl, hs (.putMerged p) ?_, hs (.putCur n) ?_⟩⟩)
      · exact List.mem_cons_of_mem _ (List.mem_cons_of_mem _ (putMerged_before_delCur h))
      · simp

/-! ## what every step preserves, without any invariant -/

theorem serve_stored_mono (s : Sys) (i : Nat) (r : Req) : ∀ v, v ∈ s.stored → v ∈ (serve s i r).stored := by
  intro v hv
  cases r <;> first | exact hv | exact mem_addNew_of_mem hv

theorem serve_merged_mono (s : Sys) (i : Nat) (r : Req) :
    ∀ v, v ∈ s.bucket.merged → v ∈ (serve s i r).bucket.merged := by
  intro v hv
  cases r <;> first | exact hv | exact mem_addNew_of_mem hv

theorem map_ro_set {cs : List Client} {i : Nat} {c c' : Client} (hc : cs[i]? = some c)
    (hro : c'.ro = c.ro) : (cs.set i c').map (·.ro) = cs.map (·.ro) := by
  obtain ⟨hlt, rfl⟩ := List.getElem?_eq_some_iff.mp hc
  have e : (cs.map (·.ro))[i]'(by simpa using hlt) = cs[i].ro := List.getElem_map ..
  rw [List.map_set, hro, ← e, List.set_getElem_self]

/-- `s'` is a later state than `s` -/
structure Later (s s' : Sys) : Prop where
  vers : ∃ extra, s'.vers = s.vers ++ extra
  ro : s'.clients.map (·.ro) = s.clients.map (·.ro)
  stored : ∀ v, v ∈ s.stored → v ∈ s'.stored
  merged : ∀ v, v ∈ s.bucket.merged → v ∈ s'.bucket.merged

theorem Later.refl (s : Sys) : Later s s :=
  ⟨⟨[], (List.append_nil _).symm⟩, rfl, fun _ h => h, fun _ h => h⟩

theorem Later.trans {s1 s2 s3 : Sys} (h1 : Later s1 s2) (h2 : Later s2 s3) : Later s1 s3 := by
  obtain ⟨e1, he1⟩ := h1.vers
  obtain ⟨e2, he2⟩ := h2.vers
  exact ⟨⟨e1 ++ e2, by rw [he2, he1, List.append_assoc]⟩, h2.ro.trans h1.ro,
    fun v h => h2.stored v (h1.stored v h), fun v h => h2.merged v (h1.merged v h)⟩

theorem Later.serve (s : Sys) (i : Nat) (r : Req) : Later s (serve s i r) :=
  ⟨⟨[], (List.append_nil _).symm⟩, rfl, serve_stored_mono s i r, serve_merged_mono s i r⟩

theorem Later.alloc (s : Sys) (ps : List Nat) : Later s { s with vers := s.vers ++ [ps] } :=
  ⟨⟨[ps], rfl⟩, rfl, fun _ h => h, fun _ h => h⟩

theorem Later.ack {s g : Sys} (h : Later s g) (acked : List Nat) : Later s { g with acked := acked } :=
  ⟨h.vers, h.ro, h.stored, h.merged⟩

/-- the effect of one step of client `i` on the parts of the state other clients can observe -/
structure Upd (s : Sys) (i : Nat) (c : Client) (s' : Sys) : Prop where
  vers : ∃ extra, s'.vers = s.vers ++ extra
  clients : ∃ c', s'.clients = s.clients.set i c' ∧ c'.ro = c.ro
  stored : ∀ v, v ∈ s.stored → v ∈ s'.stored
  merged : ∀ v, v ∈ s.bucket.merged → v ∈ s'.bucket.merged

theorem Upd.later {s s' : Sys} {i : Nat} {c : Client} (u : Upd s i c s') (hc : s.clients[i]? = some c) :
    Later s s' := by
  obtain ⟨c', hcl, hro⟩ := u.clients
  exact ⟨u.vers, by rw [hcl]; exact map_ro_set hc hro, u.stored, u.merged⟩

section
variable {s g : Sys} {i : Nat} {c c' : Client}

theorem StepRel.later (h : StepRel s i c g c') : Later s g := by
  cases h with
  | crash | startOpen | skip | openDone => exact .refl s
  | startCommit | openCommit => exact .alloc s _
  | list | req | hit | miss => exact .serve s i _
  | reqLast => exact (Later.serve s i _).ack _

theorem StepRel.clients (h : StepRel s i c g c') : g.clients = s.clients := by
  cases h <;> rfl

theorem StepRel.ro (h : StepRel s i c g c') : c'.ro = c.ro := by
  cases h <;> rfl

theorem StepRel.upd (h : StepRel s i c g c') : Upd s i c (setClient g i c') :=
  ⟨h.later.vers, ⟨c', congrArg (·.set i c') h.clients, h.ro⟩, h.later.stored, h.later.merged⟩

/-- a step serves at most one request: a read, or the head of the client's queue -/
theorem StepRel.trace (h : StepRel s i c g c') :
    g.trace = s.trace ∨
    ∃ r, g.trace = (i, r) :: s.trace ∧ (r.mutation = true → ∃ rest, c.queue = r :: rest) := by
  cases h with
  | crash | startOpen | startCommit | skip | openCommit | openDone => exact Or.inl rfl
  | list | hit | miss => exact Or.inr ⟨_, rfl, nofun⟩
  | req r rest hq | reqLast r _ hq => exact Or.inr ⟨r, rfl, fun _ => ⟨_, hq⟩⟩

end

theorem step_later (s : Sys) (i : Nat) (a : Act) : Later s (step F s i a) :=
  step_ind s i a (.refl s) fun _ _ _ hc h => h.upd.later hc

theorem run_nil (s : Sys) : run F s [] = s := rfl
theorem run_cons (s : Sys) (p : Nat × Act) (sched : List (Nat × Act)) :
    run F s (p :: sched) = run F (step F s p.1 p.2) sched := rfl
theorem run_append (s : Sys) (a b : List (Nat × Act)) : run F s (a ++ b) = run F (run F s a) b := by
  simp [run, List.foldl_append]

theorem run_later (s : Sys) (sched : List (Nat × Act)) : Later s (run F s sched) :=
  List.foldlRecOn sched _ (.refl s) fun s' h p _ => h.trans (step_later s' p.1 p.2)

/-! ## the invariant -/

/-- the global part: registry, bucket, `stored`, `acked` -/
structure GInv (vers : List (List Nat)) (b : Bucket) (stored acked : List Nat) : Prop where
  stored_lt : ∀ v : Nat, v ∈ stored → v < vers.length
  parent_lt : ∀ n p : Nat, p ∈ vers.getD n [] → p < n
  stored_sub : ∀ v : Nat, v ∈ stored → v ∈ b.current ∨ v ∈ b.merged
  current_sub : ∀ v : Nat, v ∈ b.current → v ∈ stored
  acked_sub : ∀ v : Nat, v ∈ acked → v ∈ stored
  covered : ∀ v : Nat, v ∈ stored → ∃ n : Nat, n ∈ b.current ∧ Anc vers v n

/-- the per-client part; it mentions the global state only through the registry, `stored` and
    `root/merged/`, all of which only grow -/
structure CInv (vers : List (List Nat)) (stored merged : List Nat) (c : Client) : Prop where
  toLoad_sub : ∀ v : Nat, v ∈ c.toLoad → v ∈ stored
  loaded_sub : ∀ v : Nat, v ∈ c.loaded → v ∈ stored
  source_sub : ∀ v : Nat, v ∈ c.source → v ∈ stored
  idle : c.committing = none → c.queue = [] ∨ c.queue = [.list]
  busy : ∀ n : Nat, c.committing = some n →
    c.opening = false ∧ c.ro = false ∧ n < vers.length ∧ c.queue ≠ [] ∧
    ∃ pre, pre ++ c.queue = reqs n (vers.getD n []) ∧ ∀ r, r ∈ pre → Served stored merged r
  opening : c.opening = true → c.queue = [] →
    (∀ v : Nat, v ∈ c.seen → ∃ n : Nat, n ∈ c.loaded ++ c.toLoad ∧ Anc vers v n) ∧
    (c.tryLocs = none ∨ ∃ (v : Nat) (more : List Nat), c.toLoad = v :: more ∧ c.tryLocs = some [.merged] ∧ v ∈ merged)

/-- mutating requests in the trace were issued by read-write clients -/
def TInv (s : Sys) : Prop :=
  ∀ p, p ∈ s.trace → p.2.mutation = true → (s.clients.map (·.ro))[p.1]? = some false

structure Inv (s : Sys) : Prop where
  g : GInv s.vers s.bucket s.stored s.acked
  c : ∀ (i : Nat) (c : Client), s.clients[i]? = some c → CInv s.vers s.stored s.bucket.merged c
  t : TInv s

theorem Served.mono {stored merged stored' merged' : List Nat} {r : Req} (h : Served stored merged r)
    (hs : ∀ v, v ∈ stored → v ∈ stored') (hm : ∀ v, v ∈ merged → v ∈ merged') :
    Served stored' merged' r := by
  cases r <;> first | exact trivial | exact hs _ h | exact hm _ h

/-- serving `r` extends the served prefix by `r` -/
theorem Served.snoc {s : Sys} {pre : List Req} (hs : ∀ x, x ∈ pre → Served s.stored s.bucket.merged x)
    (i : Nat) (r : Req) :
    ∀ x, x ∈ pre ++ [r] → Served (serve s i r).stored (serve s i r).bucket.merged x := by
  intro x hx
  rcases List.mem_append.mp hx with hx | hx
  · exact (hs x hx).mono (serve_stored_mono s i r) (serve_merged_mono s i r)
  · cases List.mem_singleton.mp hx
    cases r <;> first | exact trivial | exact mem_addNew_self ..

/-- a commit begins: the registry gets the new version, whose parents are stored versions -/
theorem GInv.append {vers : List (List Nat)} {b : Bucket} {stored acked : List Nat}
    (h : GInv vers b stored acked) (ps : List Nat) (hps : ∀ p, p ∈ ps → p ∈ stored) :
    GInv (vers ++ [ps]) b stored acked := by
  refine ⟨?_, ?_, h.stored_sub, h.current_sub, h.acked_sub, ?_⟩
  · intro v hv
    have := h.stored_lt v hv
    rw [List.length_append]; omega
  · intro n p hp
    by_cases h1 : n < vers.length
    · rw [getD_append_lt h1] at hp; exact h.parent_lt n p hp
    · by_cases h2 : n = vers.length
      · subst h2
        rw [getD_append_self] at hp
        exact h.stored_lt p (hps p hp)
      · rw [getD_ge (by simp; omega)] at hp; cases hp
  · intro v hv
    obtain ⟨n, hn, ha⟩ := h.covered v hv
    exact ⟨n, hn, ha.append _⟩

section
variable {vers : List (List Nat)} {b : Bucket} {stored acked : List Nat} {n p : Nat}

theorem GInv.ack (h : GInv vers b stored acked) (hn : n ∈ stored) : GInv vers b stored (addNew n acked) := by
  refine ⟨h.stored_lt, h.parent_lt, h.stored_sub, h.current_sub, ?_, h.covered⟩
  intro v hv
  rcases mem_addNew.mp hv with rfl | hv
  · exact hn
  · exact h.acked_sub v hv

/-- `PUT root/current/n`: each clause holds of `n` and of what was there -/
theorem GInv.putCur (h : GInv vers b stored acked) (hn : n < vers.length) :
    GInv vers { b with current := addNew n b.current } (addNew n stored) acked := by
  refine ⟨?_, h.parent_lt, ?_, ?_, fun v hv => mem_addNew_of_mem (h.acked_sub v hv), ?_⟩ <;>
    intro v hv <;> rcases mem_addNew.mp hv with rfl | hv
  · exact hn
  · exact h.stored_lt v hv
  · exact Or.inl (mem_addNew_self ..)
  · exact (h.stored_sub v hv).imp mem_addNew_of_mem id
  · exact mem_addNew_self ..
  · exact mem_addNew_of_mem (h.current_sub v hv)
  · exact ⟨v, mem_addNew_self .., .refl _⟩
  · obtain ⟨m, hm, ha⟩ := h.covered v hv
    exact ⟨m, mem_addNew_of_mem hm, ha⟩

theorem GInv.putMerged (h : GInv vers b stored acked) (p : Nat) :
    GInv vers { b with merged := addNew p b.merged } stored acked :=
  ⟨h.stored_lt, h.parent_lt, fun v hv => (h.stored_sub v hv).imp id mem_addNew_of_mem, h.current_sub,
    h.acked_sub, h.covered⟩

/-- `DELETE root/current/p` on behalf of the child `n`: `p` is in `root/merged/` already, and `n` is stored -/
theorem GInv.delCur (h : GInv vers b stored acked) (hp : p ∈ vers.getD n []) (hpm : p ∈ b.merged)
    (hns : n ∈ stored) : GInv vers (b.apply (.delCur p)) stored acked := by
  refine ⟨h.stored_lt, h.parent_lt, ?_, fun v hv => h.current_sub v (mem_delCur.mp hv).1, h.acked_sub, ?_⟩
  · intro v hv
    by_cases hvp : v = p
    · exact Or.inr (hvp ▸ hpm)
    · exact (h.stored_sub v hv).imp (fun h1 => mem_delCur.mpr ⟨h1, hvp⟩) id
  · intro v hv
    obtain ⟨m, hm, ha⟩ := h.covered v hv
    by_cases hmp : m = p
    · -- `v` was covered by `p`: now by what covers the child `n`, which is not `p` since `p < n ≤ n'`
      subst hmp
      obtain ⟨n', hn', ha'⟩ := h.covered n hns
      have hlt : m < n' := Nat.lt_of_lt_of_le (h.parent_lt n m hp) (ha'.le h.parent_lt)
      exact ⟨n', mem_delCur.mpr ⟨hn', Nat.ne_of_gt hlt⟩, (Anc.step hp ha).trans ha'⟩
    · exact ⟨m, mem_delCur.mpr ⟨hm, hmp⟩, ha⟩

end

/-- serving the next request `r` of the commit of `n`, the requests `pre` before it having been served -/
theorem GInv.serve {s : Sys} (h : GInv s.vers s.bucket s.stored s.acked) (i : Nat) {n : Nat}
    (hn : n < s.vers.length) {pre rest : List Req} {r : Req}
    (hpre : pre ++ r :: rest = reqs n (s.vers.getD n []))
    (hs : ∀ x, x ∈ pre → Served s.stored s.bucket.merged x) :
    GInv s.vers (serve s i r).bucket (serve s i r).stored s.acked := by
  rcases reqs_head hpre hs with rfl | rfl | ⟨p, hp, rfl | ⟨rfl, hpm, hns⟩⟩
  · exact ⟨h.stored_lt, h.parent_lt, h.stored_sub, h.current_sub, h.acked_sub, h.covered⟩
  · exact h.putCur hn
  · exact h.putMerged p
  · exact h.delCur hp hpm hns

section
variable {vers : List (List Nat)} {stored merged : List Nat} {c : Client}

theorem CInv.mono (h : CInv vers stored merged c) (extra : List (List Nat)) {stored' merged' : List Nat}
    (hs : ∀ v, v ∈ stored → v ∈ stored') (hm : ∀ v, v ∈ merged → v ∈ merged') :
    CInv (vers ++ extra) stored' merged' c := by
  refine ⟨fun v hv => hs v (h.toLoad_sub v hv), fun v hv => hs v (h.loaded_sub v hv),
    fun v hv => hs v (h.source_sub v hv), h.idle, ?_, ?_⟩
  · intro n hn
    obtain ⟨h1, h2, h3, h4, pre, h5, h6⟩ := h.busy n hn
    have h3' : n < (vers ++ extra).length := by rw [List.length_append]; omega
    refine ⟨h1, h2, h3', h4, pre, ?_, fun r hr => (h6 r hr).mono hs hm⟩
    rw [getD_append_lt h3]; exact h5
  · intro ho hq
    obtain ⟨h1, h2⟩ := h.opening ho hq
    refine ⟨fun v hv => ?_, ?_⟩
    · obtain ⟨n, hn, ha⟩ := h1 v hv
      exact ⟨n, hn, ha.append extra⟩
    · rcases h2 with h2 | ⟨v, more, e1, e2, hv⟩
      · exact Or.inl h2
      · exact Or.inr ⟨v, more, e1, e2, hm v hv⟩

theorem CInv.queue_nil (h : CInv vers stored merged c) (hq : c.queue = []) : c.committing = none := by
  cases hcm : c.committing with
  | none => rfl
  | some n => exact ((h.busy n hcm).2.2.2.1 hq).elim

/-- the head of a client's queue: the LIST of an open, alone, or a mutating request of the commit
    in progress -/
theorem CInv.head (h : CInv vers stored merged c) {r : Req} {rest : List Req} (hq : c.queue = r :: rest) :
    (c.committing = none ∧ r = .list ∧ rest = []) ∨ (r.mutation = true ∧ ∃ n, c.committing = some n) := by
  cases hcm : c.committing with
  | none =>
    rcases h.idle hcm with h1 | h1 <;> rw [hq] at h1 <;> cases h1
    exact Or.inl ⟨rfl, rfl, rfl⟩
  | some n =>
    obtain ⟨_, _, _, _, pre, hpre, _⟩ := h.busy n hcm
    exact Or.inr
      ⟨mutation_of_mem_reqs (hpre ▸ hq ▸ List.mem_append_right pre (List.mem_cons_self ..)), n, rfl⟩

/-- only read-write clients queue mutating requests -/
theorem CInv.rw_of_mutation (h : CInv vers stored merged c) {r : Req} {rest : List Req}
    (hq : c.queue = r :: rest) (hm : r.mutation = true) : c.ro = false := by
  rcases h.head hq with ⟨_, rfl, _⟩ | ⟨_, n, hcm⟩
  · cases hm
  · exact (h.busy n hcm).2.1

/-- a client that is not committing: the clauses about a commit in progress are void -/
theorem CInv.of_idle (hcm : c.committing = none) (hq : c.queue = [] ∨ c.queue = [.list])
    (h1 : ∀ v : Nat, v ∈ c.toLoad → v ∈ stored) (h2 : ∀ v : Nat, v ∈ c.loaded → v ∈ stored)
    (h3 : ∀ v : Nat, v ∈ c.source → v ∈ stored)
    (h4 : c.opening = true → c.queue = [] →
      (∀ v : Nat, v ∈ c.seen → ∃ n : Nat, n ∈ c.loaded ++ c.toLoad ∧ Anc vers v n) ∧
      (c.tryLocs = none ∨
        ∃ (v : Nat) (more : List Nat), c.toLoad = v :: more ∧ c.tryLocs = some [.merged] ∧ v ∈ merged)) :
    CInv vers stored merged c :=
  ⟨h1, h2, h3, fun _ => hq, fun _ hn => (nomatch hcm.symm.trans hn), h4⟩

/-- a client that is not in the middle of a commit starts one -/
theorem CInv.begin (h : CInv vers stored merged c) (ho : c.opening = false) (hro : c.ro = false)
    (ps : List Nat) :
    CInv (vers ++ [ps]) stored merged
      { c with queue := reqs vers.length ps, committing := some vers.length } := by
  have hm := h.mono [ps] (fun _ hv => hv) (fun _ hv => hv)
  refine ⟨hm.toLoad_sub, hm.loaded_sub, hm.source_sub, nofun, ?_, fun ho' => nomatch ho.symm.trans ho'⟩
  intro n hn
  cases hn
  have hlt : vers.length < (vers ++ [ps]).length := by rw [List.length_append]; exact Nat.lt_succ_self _
  exact ⟨ho, hro, hlt, List.cons_ne_nil _ _, [], by rw [getD_append_self]; rfl, nofun⟩

/-- the open completes -/
theorem CInv.openDone (h : CInv vers stored merged c) (hq : c.queue = []) :
    CInv vers stored merged { c with opening := false, source := c.loaded } :=
  .of_idle (h.queue_nil hq) (Or.inl hq) h.toLoad_sub h.loaded_sub h.loaded_sub nofun

/-- a listed name is never given up: there is always a location left to try -/
theorem CInv.no_skip (h : CInv vers stored merged c) (hq : c.queue = []) (ho : c.opening = true)
    (ht : c.tryLocs.getD [.current, .merged] = []) : False := by
  rcases (h.opening ho hq).2 with h | ⟨_, _, _, h, _⟩ <;> rw [h] at ht <;> cases ht

/-- the GET finds the version -/
theorem CInv.hit (h : CInv vers stored merged c) {v : Nat} {more : List Nat} (hq : c.queue = [])
    (ho : c.opening = true) (hl : c.toLoad = v :: more) :
    CInv vers stored merged { c with toLoad := more, tryLocs := none, loaded := c.loaded ++ [v] } := by
  have hsub : ∀ x, x ∈ v :: more → x ∈ stored := hl ▸ h.toLoad_sub
  refine .of_idle (h.queue_nil hq) (Or.inl hq) (fun x hx => hsub x (List.mem_cons_of_mem _ hx)) ?_
    h.source_sub fun _ _ => ⟨fun x hx => ?_, Or.inl rfl⟩
  · intro x hx
    rcases List.mem_append.mp hx with hx | hx
    · exact h.loaded_sub x hx
    · exact hsub x (List.mem_singleton.mp hx ▸ List.mem_cons_self ..)
  · obtain ⟨n, hn, ha⟩ := (h.opening ho hq).1 x hx
    exact ⟨n, by simpa [hl] using hn, ha⟩

end

section
variable {s : Sys} {c : Client}

/-- LIST is served: the listing is stored, and covers everything stored -/
theorem CInv.list (hG : GInv s.vers s.bucket s.stored s.acked) (h : CInv s.vers s.stored s.bucket.merged c)
    {rest : List Req} (hq : c.queue = .list :: rest) :
    CInv s.vers s.stored s.bucket.merged
      { c with queue := rest, toLoad := s.bucket.current, tryLocs := none, loaded := [], seen := s.stored } := by
  obtain ⟨hcm, -, hrest⟩ : c.committing = none ∧ Req.list = .list ∧ rest = [] :=
    (h.head hq).resolve_right fun ⟨hm, _⟩ => nomatch hm
  refine .of_idle hcm (Or.inl hrest) hG.current_sub nofun h.source_sub fun _ _ => ⟨fun v hv => ?_, Or.inl rfl⟩
  obtain ⟨n, hn, ha⟩ := hG.covered v hv
  exact ⟨n, List.mem_append_right _ hn, ha⟩

/-- the GET finds nothing: that was `root/current/`, and the version is under `root/merged/` -/
theorem CInv.miss (hG : GInv s.vers s.bucket s.stored s.acked) (h : CInv s.vers s.stored s.bucket.merged c)
    {v : Nat} {more : List Nat} {l : Loc} {ls : List Loc}
    (hq : c.queue = []) (ho : c.opening = true) (hl : c.toLoad = v :: more)
    (ht : c.tryLocs.getD [.current, .merged] = l :: ls) (hh : s.bucket.has l v = false) :
    CInv s.vers s.stored s.bucket.merged { c with tryLocs := some ls } := by
  refine ⟨h.toLoad_sub, h.loaded_sub, h.source_sub, h.idle, h.busy, fun _ _ => ⟨(h.opening ho hq).1, ?_⟩⟩
  rcases (h.opening ho hq).2 with h1 | ⟨v', more', e1, e2, hv'⟩
  · -- first try
    rw [h1] at ht
    cases ht
    have hvc : v ∉ s.bucket.current := by simpa [Bucket.has] using hh
    have hvs : v ∈ s.stored := h.toLoad_sub v (hl ▸ List.mem_cons_self ..)
    exact Or.inr ⟨v, more, hl, rfl, (hG.stored_sub v hvs).resolve_left hvc⟩
  · -- second try: cannot miss
    rw [e2] at ht
    cases ht
    cases hl.symm.trans e1
    simp [Bucket.has, hv'] at hh

end

/-! ## preservation -/

/-- the generic step: client `i` becomes `c'`, the global state moves to a later one -/
theorem Inv.update {s s' : Sys} (hI : Inv s) {i : Nat} {c c' : Client} {extra : List (List Nat)}
    (hc : s.clients[i]? = some c)
    (hV : s'.vers = s.vers ++ extra)
    (hCl : s'.clients = s.clients.set i c')
    (hS : ∀ v, v ∈ s.stored → v ∈ s'.stored)
    (hM : ∀ v, v ∈ s.bucket.merged → v ∈ s'.bucket.merged)
    (hG : GInv s'.vers s'.bucket s'.stored s'.acked)
    (hC : CInv s'.vers s'.stored s'.bucket.merged c')
    (hro : c'.ro = c.ro)
    (hT : ∀ p, p ∈ s'.trace → p ∈ s.trace ∨ (p.1 = i ∧ (p.2.mutation = true → c.ro = false))) :
    Inv s' := by
  refine ⟨hG, ?_, ?_⟩
  · intro j cj hj
    rw [hCl, List.getElem?_set] at hj
    by_cases hij : i = j
    · rw [if_pos hij] at hj
      split at hj
      · cases hj; exact hC
      · cases hj
    · rw [if_neg hij] at hj
      rw [hV]
      exact (hI.c j cj hj).mono extra hS hM
  · intro p hp hmut
    rw [hCl, map_ro_set hc hro]
    rcases hT p hp with h | ⟨h1, h2⟩
    · exact hI.t p h hmut
    · rw [h1, List.getElem?_map, hc, ← h2 hmut]; rfl

theorem Inv.init (ros : List Bool) : Inv (init ros) := by
  refine ⟨⟨nofun, fun n p (hp : p ∈ []) => (nomatch hp), nofun, nofun, nofun, nofun⟩, fun i c hc => ?_, nofun⟩
  obtain ⟨r, -, rfl⟩ := Option.map_eq_some_iff.mp ((List.getElem?_map ..).symm.trans hc)
  exact ⟨nofun, nofun, nofun, fun _ => Or.inl rfl, nofun, nofun⟩

section
variable {s g : Sys} {i : Nat} {c c' : Client}

/-- the global part and the stepping client's part after a step -/
theorem StepRel.pieces (hI : Inv s) (hc : s.clients[i]? = some c) (h : StepRel s i c g c') :
    GInv g.vers g.bucket g.stored g.acked ∧ CInv g.vers g.stored g.bucket.merged c' := by
  have ci := hI.c i c hc
  cases h with
  | crash => exact ⟨hI.g, .of_idle rfl (Or.inl rfl) ci.toLoad_sub ci.loaded_sub ci.source_sub nofun⟩
  | startOpen hq ho =>
    exact ⟨hI.g, .of_idle (ci.queue_nil hq) (Or.inr rfl) nofun nofun ci.source_sub nofun⟩
  | startCommit hq ho hro => exact ⟨hI.g.append _ ci.source_sub, ci.begin ho hro _⟩
  | list rest hq => exact ⟨hI.g, ci.list hI.g hq⟩
  | skip v more hq ho hl ht => exact (ci.no_skip hq ho ht).elim
  | hit v more l ls hq ho hl ht hh => exact ⟨hI.g, ci.hit hq ho hl⟩
  | miss v more l ls hq ho hl ht hh => exact ⟨hI.g, ci.miss hI.g hq ho hl ht hh⟩
  | openCommit hq ho hl hro hlen => exact ⟨hI.g.append _ ci.loaded_sub, (ci.openDone hq).begin rfl hro _⟩
  | openDone hq ho hl => exact ⟨hI.g, ci.openDone hq⟩
  | req r rest hq hr hne =>
    -- a request of the commit of `n`, not the last one
    obtain ⟨-, n, hcm⟩ := (ci.head hq).resolve_left fun h => hr h.2.1
    obtain ⟨ho, hro, hn, _, pre, hpre, hs⟩ := ci.busy n hcm
    rw [hq] at hpre
    have cm := ci.mono [] (serve_stored_mono s i r) (serve_merged_mono s i r)
    refine ⟨hI.g.serve i hn hpre hs, cm.toLoad_sub, cm.loaded_sub, cm.source_sub,
      fun h => (nomatch hcm.symm.trans h), fun m hm => ?_, fun h => (nomatch ho.symm.trans h)⟩
    cases hcm.symm.trans hm
    exact ⟨ho, hro, hn, fun e => hne n e hcm, pre ++ [r], (List.append_cons ..).symm.trans hpre,
      Served.snoc hs i r⟩
  | reqLast r n hq hr hcm =>
    -- the last request of the commit of `n`, which returns
    obtain ⟨ho, hro, hn, _, pre, hpre, hs⟩ := ci.busy n hcm
    rw [hq] at hpre
    have cm := ci.mono [] (serve_stored_mono s i r) (serve_merged_mono s i r)
    have hns : n ∈ (serve s i r).stored := Served.snoc hs i r (.putCur n) (hpre ▸ putCur_mem_reqs ..)
    exact ⟨(hI.g.serve i hn hpre hs).ack hns,
      .of_idle rfl (Or.inl rfl) cm.toLoad_sub cm.loaded_sub (fun v hv => List.mem_singleton.mp hv ▸ hns)
        fun h => (nomatch ho.symm.trans h)⟩

theorem StepRel.inv (hI : Inv s) (hc : s.clients[i]? = some c) (h : StepRel s i c g c') :
    Inv (setClient g i c') := by
  obtain ⟨extra, hV⟩ := h.later.vers
  obtain ⟨hG, hC⟩ := h.pieces hI hc
  refine hI.update hc hV (congrArg (·.set i c') h.clients) h.later.stored h.later.merged hG hC h.ro ?_
  show ∀ p, p ∈ g.trace → _
  rcases h.trace with e | ⟨r, e, hr⟩ <;> rw [e]
  · exact fun _ => Or.inl
  · intro p hp
    rcases List.mem_cons.mp hp with rfl | hp
    · exact Or.inr ⟨rfl, fun hm => let ⟨_, hq⟩ := hr hm; (hI.c i c hc).rw_of_mutation hq hm⟩
    · exact Or.inl hp

end

theorem inv_step {s : Sys} (hI : Inv s) (i : Nat) (a : Act) : Inv (step F s i a) :=
  step_ind s i a hI fun _ _ _ hc h => h.inv hI hc

theorem inv_run {s : Sys} (hI : Inv s) (sched : List (Nat × Act)) : Inv (run F s sched) :=
  List.foldlRecOn sched _ hI fun _ h p _ => inv_step h p.1 p.2

theorem inv_reachable (ros : List Bool) (sched : List (Nat × Act)) : Inv (run F (init ros) sched) :=
  inv_run (Inv.init ros) sched

/-! ## consequences used by the property theorems -/

theorem Later.client {s s' : Sys} (h : Later s s') {j : Nat} {c : Client} (hc : s.clients[j]? = some c) :
    ∃ c', s'.clients[j]? = some c' ∧ c'.ro = c.ro := by
  have e : (s'.clients.map (·.ro))[j]? = (s.clients.map (·.ro))[j]? := by rw [h.ro]
  rw [List.getElem?_map, List.getElem?_map, hc] at e
  exact Option.map_eq_some_iff.mp e

theorem Later.vers_get {s s' : Sys} (h : Later s s') {v : Nat} {ps : List Nat}
    (hv : s.vers[v]? = some ps) : s'.vers[v]? = some ps := by
  obtain ⟨extra, e⟩ := h.vers
  rcases List.getElem?_eq_some_iff.mp hv with ⟨hlt, _⟩
  rw [e, List.getElem?_append_left hlt, hv]

theorem Inv.ro_no_mutation {s : Sys} (hI : Inv s) {i : Nat} {r : Req} {c : Client}
    (ht : (i, r) ∈ s.trace) (hc : s.clients[i]? = some c) (hro : c.ro = true) : r.mutation = false := by
  cases hm : r.mutation with
  | false => rfl
  | true =>
    have := hI.t (i, r) ht hm
    rw [List.getElem?_map, hc] at this
    simp [hro] at this

theorem openOnly_of_mem (b : Bucket) (vs : List Nat)
    (h : ∀ v, v ∈ vs → v ∈ b.current ∨ v ∈ b.merged) : openOnly F b vs = some vs := by
  unfold openOnly
  rw [historicLocs_eq, if_pos]
  rw [List.all_eq_true]
  intro v hv
  rcases h v hv with h1 | h1 <;> simp [Bucket.has, h1]

end S3db.ProtoInv
