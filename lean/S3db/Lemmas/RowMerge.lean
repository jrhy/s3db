import S3db.Model.Row
import S3db.Model.Table
import S3db.Lemmas.Sel
import S3db.Lemmas.KvMerge
/-!
# Helper lemmas: under `RowInv` the row merge is a component-wise *selection*

A row is a status cell `(dut, deleted)` plus one optional cell per column.  `MergeRows` picks the
status with the later time and, per column, the assignment with the later time (`Sel.latest`); the
"reset" that hides values older than a re-insert never hides anything on rows that satisfy `RowInv`
(every column of a live row was assigned at or after the row's insert time — which every SQL
INSERT establishes because it assigns every column).
-/
namespace S3db.Row
open S3db S3db.AList

variable {V : Type}

theorem mem_dedup {k : String} {ks : List String} : k ∈ dedup ks ↔ k ∈ ks :=
  mem_dedup_of rfl fun _ _ => rfl

theorem lookup_filterMap_key {W : Type} (f : String → Option W) (k : String) :
    ∀ ks : List String,
      lookup k (ks.filterMap fun k' => (f k').map fun c => (k', c)) = if k ∈ ks then f k else none
  | [] => rfl
  | a :: ks => by
    have ih := lookup_filterMap_key f k ks
    rw [List.filterMap_cons]
    by_cases h : a = k
    · subst h; cases hf : f a <;> simp [lookup, ih, hf]
    · cases f a <;> simp [lookup, ih, h, Ne.symm h]

theorem mergeCol_none_none (reset : Option Int) : mergeCol (V := V) reset none none = none := rfl

theorem lookup_mergeCols (reset : Option Int) (c1 c2 : AList String (ACol V)) (k : String) :
    lookup k (mergeCols reset c1 c2) = mergeCol reset (lookup k c1) (lookup k c2) := by
  unfold mergeCols
  rw [lookup_filterMap_key (fun k => mergeCol reset (lookup k c1) (lookup k c2)) k]
  split
  · rfl
  · next h =>
    rw [mem_dedup, List.mem_append, not_or] at h
    rw [lookup_eq_none_iff.2 h.1, lookup_eq_none_iff.2 h.2]
    rfl

/-- the status cell of a row -/
structure Status where
  dut : Int
  deleted : Bool
deriving DecidableEq, Repr

def ARow.status (r : ARow V) : Status := ⟨r.dut, r.deleted⟩

/-- later time wins; on a tie the second argument -/
def selStatus (x y : Status) : Status := if ¬ (x.dut > y.dut) then y else x
/-- "distinct times": two different statuses never carry the same time -/
def StatusR (x y : Status) : Prop := x.dut = y.dut → x = y

def selCol (x y : ACol V) : ACol V := if ¬ (y.t < x.t) then y else x
def ColR (x y : ACol V) : Prop := x.t = y.t → x = y

/-- both cell merges are `Sel.latest`: for its lemmas, name the time as `(t := Status.dut)`,
    `(t := ACol.t)` -/
theorem statusLaws : Sel.Laws selStatus StatusR := Sel.latestLaws Status.dut
theorem colLaws : Sel.Laws (selCol (V := V)) ColR := Sel.latestLaws ACol.t

/-- the invariant of rows written through SQL, for the declared non-key columns `S` -/
def RowInv (S : List String) (r : ARow V) : Prop :=
  (∀ c, lookup c r.cols ≠ none → c ∈ S) ∧
  (r.deleted = false → ∀ c ∈ S, ∃ x, lookup c r.cols = some x ∧ r.dut ≤ x.t)

theorem mergeRows_cols (r1 r2 : ARow V) :
    (mergeRows r1 r2).cols = mergeCols (status r1 r2).2.2 r1.cols r2.cols := rfl
theorem mergeRows_deleted (r1 r2 : ARow V) :
    (mergeRows r1 r2).deleted = if r1.dut > r2.dut then r1.deleted else r2.deleted := by
  unfold mergeRows status; by_cases h : r1.dut > r2.dut <;> simp [h]
theorem mergeRows_dut (r1 r2 : ARow V) :
    (mergeRows r1 r2).dut = if r1.dut > r2.dut then r1.dut else r2.dut := by
  unfold mergeRows status; by_cases h : r1.dut > r2.dut <;> simp [h]

theorem mergeRows_status (r1 r2 : ARow V) :
    (mergeRows r1 r2).status = selStatus r1.status r2.status := by
  unfold ARow.status selStatus
  rw [mergeRows_deleted, mergeRows_dut]
  by_cases h : r1.dut > r2.dut <;> simp [h]

theorem status_reset_some {r1 r2 : ARow V} {d : Int} (h : (status r1 r2).2.2 = some d) :
    (r2.deleted = false ∧ r2.dut = d) ∨ (r1.deleted = false ∧ r1.dut = d) := by
  unfold status at h
  split at h <;>
    simp only [Option.ite_none_right_eq_some, Option.some.injEq, Bool.and_eq_true, Bool.not_eq_true'] at h
  · exact .inl ⟨h.1.2, h.2⟩
  · exact .inr ⟨h.1.1, h.2⟩

theorem mergeCol_eq (reset : Option Int) (a b : Option (ACol V)) :
    mergeCol reset a b = (Sel.selOpt selCol a b).bind (keep reset) := by
  cases a <;> cases b <;> try rfl
  simp only [mergeCol, Sel.selOpt_some, selCol, Option.bind_some]
  split <;> rfl

theorem keep_of_le {reset : Option Int} {w : ACol V} (h : ∀ d, reset = some d → d ≤ w.t) :
    keep reset w = some w := by
  cases reset with
  | none => rfl
  | some d => have := h d rfl; simp [keep, hide]; omega

theorem lookup_mergeRows (r1 r2 : ARow V) (c : String) :
    lookup c (mergeRows r1 r2).cols =
      (Sel.selOpt selCol (lookup c r1.cols) (lookup c r2.cols)).bind (keep (status r1 r2).2.2) := by
  rw [mergeRows_cols, lookup_mergeCols, mergeCol_eq]

theorem mergeRows_col_nohide (r1 r2 : ARow V) (h : (status r1 r2).2.2 = none) (c : String) :
    lookup c (mergeRows r1 r2).cols = Sel.selOpt selCol (lookup c r1.cols) (lookup c r2.cols) := by
  rw [lookup_mergeRows, h]
  cases Sel.selOpt selCol (lookup c r1.cols) (lookup c r2.cols) <;> rfl

theorem selOpt_ne_none_mem {S : List String} {r1 r2 : ARow V} (h1 : RowInv S r1) (h2 : RowInv S r2)
    {c : String} (h : Sel.selOpt selCol (lookup c r1.cols) (lookup c r2.cols) ≠ none) : c ∈ S := by
  by_cases e1 : lookup c r1.cols = none
  · by_cases e2 : lookup c r2.cols = none
    · rw [e1, e2] at h; exact absurd rfl h
    · exact h2.1 c e2
  · exact h1.1 c e1

/-- under `RowInv` nothing is ever hidden: the reset time is the insert time of the live winner,
    whose own assignment of the column is not older and loses only to a later one -/
theorem mergeRows_col (S : List String) (r1 r2 : ARow V) (h1 : RowInv S r1) (h2 : RowInv S r2) (c : String) :
    lookup c (mergeRows r1 r2).cols = Sel.selOpt selCol (lookup c r1.cols) (lookup c r2.cols) := by
  rw [lookup_mergeRows]
  cases hw : Sel.selOpt selCol (lookup c r1.cols) (lookup c r2.cols) with
  | none => rfl
  | some w =>
    refine keep_of_le fun d hd => ?_
    have hc : c ∈ S := selOpt_ne_none_mem h1 h2 (by rw [hw]; simp)
    rcases status_reset_some hd with ⟨hl, rfl⟩ | ⟨hl, rfl⟩
    · obtain ⟨_, hw', hle⟩ := Sel.selOpt_latest_ge_right (lookup c r1.cols) (h2.2 hl c hc)
      cases hw'.symm.trans hw; exact hle
    · obtain ⟨_, hw', hle⟩ := Sel.selOpt_latest_ge_left (h1.2 hl c hc) (lookup c r2.cols)
      cases hw'.symm.trans hw; exact hle

theorem rowInv_mergeRows (S : List String) (r1 r2 : ARow V) (h1 : RowInv S r1) (h2 : RowInv S r2) :
    RowInv S (mergeRows r1 r2) := by
  constructor
  · intro c hne
    rw [mergeRows_col S r1 r2 h1 h2] at hne
    exact selOpt_ne_none_mem h1 h2 hne
  · intro hl c hc
    rw [mergeRows_col S r1 r2 h1 h2, mergeRows_dut]
    rw [mergeRows_deleted] at hl
    by_cases h : r1.dut > r2.dut
    · simp only [h, if_true] at hl ⊢
      exact Sel.selOpt_latest_ge_left (h1.2 hl c hc) _
    · simp only [h, if_false] at hl ⊢
      exact Sel.selOpt_latest_ge_right _ (h2.2 hl c hc)

/-- a checker for `RowInv` on concrete rows -/
def rowInvB (S : List String) (r : ARow V) : Bool :=
  (keys r.cols).all (fun c => decide (c ∈ S)) &&
  (r.deleted || S.all fun c =>
    match lookup c r.cols with
    | some x => decide (r.dut ≤ x.t)
    | none => false)

theorem rowInv_of_rowInvB {S : List String} {r : ARow V} (h : rowInvB S r = true) : RowInv S r := by
  unfold rowInvB at h
  simp only [Bool.and_eq_true, Bool.or_eq_true, List.all_eq_true, decide_eq_true_eq] at h
  refine ⟨fun c hne => h.1 c (mem_keys_of_ne_none hne), fun hl c hc => ?_⟩
  rcases h.2 with h2 | h2
  · rw [hl] at h2; cases h2
  · have := h2 c hc
    split at this
    · next x hx => exact ⟨x, hx, of_decide_eq_true this⟩
    · cases this

theorem lookup_stamp (when : Int) (vals : AList String V) (c : String) :
    lookup c (Table.stamp when vals) = (lookup c vals).map fun v => ({ v := v, t := when } : ACol V) := by
  induction vals with
  | nil => rfl
  | cons p vals ih =>
    obtain ⟨a, b⟩ := p
    unfold Table.stamp at ih ⊢
    simp only [List.map_cons, lookup]
    by_cases h : a = c
    · simp [h]
    · simp [h, ih]

end S3db.Row
