import S3db.Model.Kv
import S3db.Lemmas.Sel
/-! Helper lemmas: the tree merge is pointwise; the generated `lastWriteWins` and the entry gate. -/
namespace S3db.Kv
open S3db S3db.AList S3db.Gen.Crdt
variable {K E : Type} [DecidableEq K] [DecidableEq E]

/-- what the merge does to one key -/
def mergeOpt (f : E → E → E) : Option E → Option E → Option E
  | none, y => y
  | x, none => x
  | some x, some y => some (if x = y then x else f x y)

theorem lookup_mergeStep (f : E → E → E) (a : AList K E) (p : K × E) (k : K) :
    lookup k (mergeStep f a p) = if p.1 = k then mergeOpt f (lookup k a) (some p.2) else lookup k a := by
  unfold mergeStep
  by_cases h : p.1 = k
  · subst h
    cases hl : lookup p.1 a with
    | none => simp [lookup_insert, mergeOpt]
    | some x =>
      by_cases hx : x = p.2
      · simp [hx, mergeOpt, hl]
      · simp [hx, mergeOpt, lookup_insert]
  · cases hl : lookup p.1 a with
    | none => simp [lookup_insert, h]
    | some x =>
      by_cases hx : x = p.2
      · simp [hx, h]
      · simp [hx, h, lookup_insert]

theorem nodupKeys_mergeTrees (f : E → E → E) (g : AList K E) {a : AList K E} (h : NodupKeys a) :
    NodupKeys (mergeTrees f a g) :=
  List.foldlRecOn g _ h fun b hb p _ => by
    unfold mergeStep
    split
    · exact nodupKeys_insert hb
    · split
      · exact hb
      · exact nodupKeys_insert hb

theorem lookup_mergeTrees (f : E → E → E) (g : AList K E) (hg : NodupKeys g) :
    ∀ (a : AList K E) (k : K), lookup k (mergeTrees f a g) = mergeOpt f (lookup k a) (lookup k g) := by
  induction g with
  | nil => intro a k; show lookup k a = mergeOpt f (lookup k a) none; cases lookup k a <;> rfl
  | cons p g ih =>
    intro a k
    obtain ⟨hp, hg⟩ := List.nodup_cons.1 hg
    show lookup k (mergeTrees f (mergeStep f a p) g) = _
    rw [ih hg, lookup_mergeStep, lookup]
    split
    · -- the key of `p` does not occur again in `g`
      next h => rw [← h, lookup_eq_none_iff.2 hp]; cases lookup p.1 a <;> rfl
    · rfl

theorem mergeOpt_eq_selOpt {f : E → E → E} {R} (L : Sel.Laws f R)
    (x y : Option E) : mergeOpt f x y = Sel.selOpt f x y := by
  cases x <;> cases y <;> simp [mergeOpt, Sel.selOpt]
  rename_i a b
  intro h; subst h; exact (L.idem a).symm

theorem mergeOpt_closed {P : E → Prop} {f : E → E → E} (hf : ∀ x y, P x → P y → P (f x y))
    {ox oy : Option E} (hx : ∀ x, ox = some x → P x) (hy : ∀ y, oy = some y → P y) :
    ∀ e, mergeOpt f ox oy = some e → P e := by
  intro e he
  cases ox with
  | none => cases oy <;> cases he; exact hy _ rfl
  | some x =>
    cases oy with
    | none => cases he; exact hx _ rfl
    | some y =>
      cases he
      split
      · exact hx _ rfl
      · exact hf x y (hx _ rfl) (hy _ rfl)

theorem mergeOpt_cell {C : Type} {sel : C → C → C} {R} (L : Sel.Laws sel R) (g : E → Option C)
    {f : E → E → E} (ox oy : Option E)
    (hf : ∀ x y, ox = some x → oy = some y → g (f x y) = Sel.selOpt sel (g x) (g y)) :
    (mergeOpt f ox oy).bind g = Sel.selOpt sel (ox.bind g) (oy.bind g) := by
  cases ox with
  | none => cases oy <;> simp [mergeOpt]
  | some x =>
    cases oy with
    | none => simp [mergeOpt]
    | some y =>
      simp only [mergeOpt, Option.bind_some]
      split
      · next e => rw [← e, L.opt.idem]
      · exact hf x y rfl rfl

end S3db.Kv

namespace S3db.Kv
open S3db S3db.AList S3db.Gen.Crdt
variable {K V : Type} [DecidableEq K]

/-- `LastWriteWins a b` returns its first argument: among live entries the later (a tie goes to
    the first), a tombstone against a live entry, among tombstones the strictly earlier -/
def Wins (a b : Entry V) : Prop :=
  (a.tomb = 0 ∧ b.tomb = 0 ∧ b.mod ≤ a.mod) ∨ (a.tomb ≠ 0 ∧ (b.tomb = 0 ∨ a.tomb < b.tomb))

instance (a b : Entry V) : Decidable (Wins a b) := inferInstanceAs (Decidable (_ ∨ _))

theorem lww_eq (a b : Entry V) : lastWriteWins a b = if Wins a b then a else b := by
  unfold lastWriteWins firstTombstoneWins tombstoned Wins
  by_cases ha : a.tomb = 0 <;> by_cases hb : b.tomb = 0 <;> simp [ha, hb]

theorem lwwFst_eq (a b : Entry V) : lastWriteWinsFst a b = decide (Wins a b) := by
  unfold lastWriteWinsFst firstTombstoneWinsFst tombstoned Wins
  by_cases ha : a.tomb = 0 <;> by_cases hb : b.tomb = 0 <;> simp [ha, hb]

theorem lww_pick (a b : Entry V) : lastWriteWins a b = a ∨ lastWriteWins a b = b := by
  rw [lww_eq]; split
  · exact Or.inl rfl
  · exact Or.inr rfl

/-- `b` is at least as strong as `a`: the order of which `LastWriteWins` returns a greatest
    element (`Wins b a` with the ties left in) -/
def Beats (a b : Entry V) : Prop :=
  (b.tomb = 0 ∧ a.tomb = 0 ∧ a.mod ≤ b.mod) ∨ (b.tomb ≠ 0 ∧ (a.tomb = 0 ∨ b.tomb ≤ a.tomb))

theorem beats_of_wins {a b : Entry V} (h : Wins a b) : Beats b a :=
  h.imp id (And.imp_right (Or.imp_right Int.le_of_lt))

theorem beats_of_not_wins {a b : Entry V} (h : ¬ Wins a b) : Beats a b := by
  unfold Beats Wins at *; omega

theorem beats_antisymm {a b : Entry V} (hab : Beats a b) (hba : Beats b a) :
    (a.tomb = 0 ∧ b.tomb = 0 ∧ a.mod = b.mod) ∨ (a.tomb ≠ 0 ∧ b.tomb ≠ 0 ∧ a.tomb = b.tomb) := by
  unfold Beats at *
  by_cases ha : a.tomb = 0
  · left; omega
  · right; omega

theorem lwwLaws : Sel.Laws (lww (V := V)) (fun a b => Beats a b → Beats b a → a = b) := by
  have total (a b : Entry V) : Beats a b ∨ Beats b a :=
    (Decidable.em (Wins a b)).symm.imp beats_of_not_wins beats_of_wins
  refine Sel.Laws.of_le Beats total (fun a b c hab hbc => ?_) lww_pick (fun a b => ?_) (fun a b => ?_)
  · -- the strongest of the three is live, and then all are, or it is a tombstone
    unfold Beats at *
    by_cases hc : c.tomb = 0
    · left; omega
    · right; omega
  · rw [lww, lww_eq]; split
    · exact (total a a).elim id id
    · exact beats_of_not_wins ‹_›
  · rw [lww, lww_eq]; split
    · exact beats_of_wins ‹_›
    · exact (total b b).elim id id

theorem mem_dedup {k : K} {ks : List K} : k ∈ dedup ks ↔ k ∈ ks :=
  mem_dedup_of rfl fun _ _ => rfl

theorem lookup_update_self (src : Option String) (t : Tree K V) (k : K) (cv : Entry V) :
    lookup k (update src t k cv) = some (match lookup k t with
      | some ex => if Wins cv ex then { cv with prev := src.getD "" } else ex
      | none => cv) := by
  unfold update
  cases lookup k t with
  | none => exact lookup_insert_self ..
  | some ex =>
    simp only [lookup_insert_self, lww_eq, lwwFst_eq, decide_eq_true_eq]
    split <;> rfl

theorem lookup_update_ne (src : Option String) (t : Tree K V) {k k' : K} (cv : Entry V) (h : k ≠ k') :
    lookup k' (update src t k cv) = lookup k' t := by
  unfold update
  split <;> exact lookup_insert_ne h ..

theorem lookup_set (src : Option String) (t : Tree K V) (when : Int) (k : K) (v : V) :
    lookup k (set src t when k v) = some (match lookup k t with
      | some ex => if ex.tomb = 0 ∧ ex.mod ≤ when
          then { mod := when, val := some v, prev := src.getD "" } else ex
      | none => { mod := when, val := some v }) := by
  rw [Kv.set, lookup_update_self]
  cases lookup k t with
  | none => rfl
  | some ex => simp [Wins]

/-- `when ≠ 0`: a tombstone time of zero reads as "live" -/
theorem lookup_tombstone (src : Option String) (t : Tree K V) {when : Int} (h : when ≠ 0) (k : K) :
    lookup k (tombstone src t when k) = some (match lookup k t with
      | some ex => if ex.tomb = 0 ∨ when < ex.tomb
          then { mod := when, tomb := when, val := none, prev := src.getD "" } else ex
      | none => { mod := when, tomb := when, val := none }) := by
  rw [Kv.tombstone, lookup_update_self]
  cases lookup k t with
  | none => rfl
  | some ex => simp [Wins, h]

end S3db.Kv
